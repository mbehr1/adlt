import Adlt.Chain.Model
/-! C20 (chain): every history of reads and seeks on the chain satisfies the Read/Seek contract of one
    file holding the concatenated volumes — for every split (empty volumes anywhere). -/
namespace Chn

def prefixLen (vols : List (List Nat)) (i : Nat) : Nat := total (vols.take i)

theorem total_nil : total [] = 0 := rfl
theorem total_cons (v : List Nat) (t : List (List Nat)) : total (v :: t) = v.length + total t :=
  List.sum_cons
theorem total_append (a b : List (List Nat)) : total (a ++ b) = total a + total b := by
  simp only [total, List.map_append, List.sum_append]
theorem total_eq_flatten (vols : List (List Nat)) : total vols = vols.flatten.length :=
  List.length_flatten.symm

theorem prefixLen_cons_succ (v : List Nat) (t : List (List Nat)) (i : Nat) :
    prefixLen (v :: t) (i + 1) = v.length + prefixLen t i := total_cons _ _

theorem prefixLen_succ (vols : List (List Nat)) (i : Nat) (v : List Nat) (h : vols[i]? = some v) :
    prefixLen vols (i + 1) = prefixLen vols i + v.length := by
  rw [prefixLen, List.take_add_one, h, total_append, prefixLen, Option.toList_some, total_cons, total_nil, Nat.add_zero]

theorem prefixLen_ge (vols : List (List Nat)) (i : Nat) (h : vols.length ≤ i) : prefixLen vols i = total vols := by
  rw [prefixLen, List.take_of_length_le h]

theorem prefixLen_le (vols : List (List Nat)) (i : Nat) : prefixLen vols i ≤ total vols := by
  have := total_append (vols.take i) (vols.drop i)
  rw [List.take_append_drop] at this
  rw [prefixLen, this]
  exact Nat.le_add_right _ _

theorem flatten_drop (vols : List (List Nat)) (i j : Nat) (v : List Nat) (h : vols[i]? = some v) (hj : j ≤ v.length) :
    vols.flatten.drop (prefixLen vols i + j) = v.drop j ++ (vols.drop (i + 1)).flatten := by
  obtain ⟨hi, hv⟩ := List.getElem?_eq_some_iff.mp h
  have e : vols.flatten = (vols.take i).flatten ++ (v ++ (vols.drop (i + 1)).flatten) := by
    rw [← List.flatten_cons, ← hv, ← List.drop_eq_getElem_cons hi, ← List.flatten_append, List.take_append_drop]
  rw [e, prefixLen, total_eq_flatten, List.drop_length_add_append, List.drop_append_of_le_length hj]

/-- where the chain stands. The reader of the current volume is tied to `relPos` only for `0 < relPos` (`rel`): at
    `relPos = 0` `read` rewinds that reader itself before it reads -/
structure Inv (c : Chain) : Prop where
  rlen : c.rpos.length = c.vols.length
  pos : (c.curIdx < c.vols.length ∧ c.absPos = prefixLen c.vols c.curIdx + c.relPos) ∨
        (c.vols.length ≤ c.curIdx ∧ c.relPos = 0 ∧ total c.vols ≤ c.absPos)
  rel : 0 < c.relPos → ∃ v, c.vols[c.curIdx]? = some v ∧ c.relPos < v.length ∧ c.rpos[c.curIdx]? = some c.relPos

/-- at the start of a volume, or just behind the last one (`curIdx = vols.length`, the `pos` alternative on the right) -/
theorem Inv.at_start {c : Chain} (rlen : c.rpos.length = c.vols.length) (hle : c.curIdx ≤ c.vols.length)
    (hrel : c.relPos = 0) (habs : c.absPos = prefixLen c.vols c.curIdx) : Inv c := by
  refine ⟨rlen, ?_, fun h => absurd hrel (Nat.ne_of_gt h)⟩
  rcases Nat.lt_or_eq_of_le hle with h | h
  · exact .inl ⟨h, by rw [hrel]; exact habs⟩
  · exact .inr ⟨Nat.le_of_eq h.symm, hrel, by rw [habs, prefixLen_ge _ _ (Nat.le_of_eq h.symm)]; exact Nat.le_refl _⟩

theorem Inv.in_vol {c : Chain} (hi : Inv c) {v : List Nat} (hv : c.vols[c.curIdx]? = some v) :
    c.curIdx < c.vols.length ∧ c.absPos = prefixLen c.vols c.curIdx + c.relPos ∧ c.relPos ≤ v.length := by
  have hidx : c.curIdx < c.vols.length := (List.getElem?_eq_some_iff.mp hv).1
  refine ⟨hidx, hi.pos.elim And.right fun h => absurd hidx (Nat.not_lt.mpr h.1), ?_⟩
  rcases Nat.eq_zero_or_pos c.relPos with h0 | h0
  · exact h0 ▸ Nat.zero_le _
  · obtain ⟨w, hw, hlt, _⟩ := hi.rel h0
    rw [hv] at hw
    cases hw
    exact Nat.le_of_lt hlt

theorem new_inv (vols : List (List Nat)) : Inv (Chain.new vols) :=
  Inv.at_start (List.length_map _) (Nat.zero_le _) rfl rfl

/-- what one `read` at position `p` of the concatenation of `vols` may answer and where it leaves the chain -/
structure ReadOk (vols : List (List Nat)) (p k : Nat) (r : List Nat × Chain) : Prop where
  data : r.1 = (vols.flatten.drop p).take r.1.length
  le : r.1.length ≤ k
  nonempty : 0 < r.1.length ∨ k = 0 ∨ vols.flatten.length ≤ p
  abs : r.2.absPos = p + r.1.length
  vols : r.2.vols = vols
  inv : Inv r.2

theorem length_take_rest (v : List Nat) (r k : Nat) :
    ((v.drop r).take (min (v.length - r) k)).length = min (v.length - r) k := by
  rw [List.length_take, List.length_drop]
  exact Nat.min_eq_left (Nat.min_le_left _ _)

theorem ReadOk.past {c : Chain} (hi : Inv c) (h : c.vols.length ≤ c.curIdx) (k : Nat) :
    ReadOk c.vols c.absPos k ([], c) :=
  have hp : total c.vols ≤ c.absPos := hi.pos.elim (fun h' => absurd h'.1 (Nat.not_lt.mpr h)) fun h' => h'.2.2
  ⟨rfl, Nat.zero_le k, .inr (.inr (total_eq_flatten _ ▸ hp)), rfl, rfl, hi⟩

/-- the part of `readHere_ok` that does not depend on where the chain goes on to stand (`c'`) -/
theorem ReadOk.in_vol {c : Chain} (hi : Inv c) {v : List Nat} (hv : c.vols[c.curIdx]? = some v) (hr : c.relPos < v.length)
    (k : Nat) {c' : Chain} (habs : c'.absPos = c.absPos + min (v.length - c.relPos) k) (hvols : c'.vols = c.vols)
    (hinv : Inv c') : ReadOk c.vols c.absPos k ((v.drop c.relPos).take (min (v.length - c.relPos) k), c') := by
  have hn := length_take_rest v c.relPos k
  refine ⟨List.prefix_iff_eq_take.mp ((List.take_prefix _ _).trans ?_), ?_, ?_, ?_, hvols, hinv⟩
  · rw [(hi.in_vol hv).2.1, flatten_drop _ _ _ _ hv (Nat.le_of_lt hr)]
    exact List.prefix_append _ _
  · rw [hn]; exact Nat.min_le_right _ _
  · rw [hn]
    exact (Nat.eq_zero_or_pos k).elim (fun h => .inr (.inl h)) fun hk => .inl (Nat.lt_min.mpr ⟨Nat.sub_pos_of_lt hr, hk⟩)
  · rw [hn]; exact habs

/-- the underlying reader of the current volume stands at `relPos` (after the rewind at `relPos = 0`) -/
theorem Inv.reader {c : Chain} (hi : Inv c) (hidx : c.curIdx < c.vols.length) :
    (if c.relPos == 0 then c.rpos.set c.curIdx 0 else c.rpos).length = c.vols.length ∧
    (if c.relPos == 0 then c.rpos.set c.curIdx 0 else c.rpos).getD c.curIdx 0 = c.relPos := by
  rcases Nat.eq_zero_or_pos c.relPos with h0 | h0
  · rw [if_pos (by rw [h0]; rfl), List.length_set, List.getD_eq_getElem?_getD,
      List.getElem?_set_self (hi.rlen ▸ hidx), h0]
    exact ⟨hi.rlen, rfl⟩
  · obtain ⟨_, _, _, h3⟩ := hi.rel h0
    rw [if_neg (by rw [beq_iff_eq]; exact Nat.ne_of_gt h0), List.getD_eq_getElem?_getD, h3]
    exact ⟨hi.rlen, rfl⟩

theorem readHere_ok (c : Chain) (hi : Inv c) (v : List Nat) (k : Nat) (hv : c.vols[c.curIdx]? = some v)
    (hr : c.relPos < v.length) : ReadOk c.vols c.absPos k (c.readHere v k) := by
  obtain ⟨hidx, habs, _⟩ := hi.in_vol hv
  obtain ⟨hl, hp⟩ := hi.reader hidx
  have hn := length_take_rest v c.relPos k
  unfold Chain.readHere
  dsimp only
  generalize (if c.relPos == 0 then c.rpos.set c.curIdx 0 else c.rpos) = rp at hl hp
  rw [hp, hn]
  split
  · rename_i hge
    refine ReadOk.in_vol hi hv hr k rfl rfl (Inv.at_start ?_ hidx rfl ?_)
    · exact List.length_set.trans hl
    · dsimp only
      rw [prefixLen_succ _ _ _ hv, habs, Nat.add_assoc,
        Nat.le_antisymm (Nat.add_le_of_le_sub' (Nat.le_of_lt hr) (Nat.min_le_left _ k)) hge]
  · rename_i hlt
    refine ReadOk.in_vol hi hv hr k rfl rfl ⟨?_, .inl ⟨hidx, ?_⟩, fun _ => ⟨v, hv, ?_, ?_⟩⟩
    · exact List.length_set.trans hl
    · dsimp only
      rw [habs, Nat.add_assoc]
    · exact Nat.not_le.mp hlt
    · exact List.getElem?_set_self (hl ▸ hidx)

theorem readFuel_ok (fuel : Nat) (c : Chain) (k : Nat) (hi : Inv c) (hf : c.vols.length + 1 ≤ fuel + c.curIdx) :
    ReadOk c.vols c.absPos k (Chain.readFuel fuel c k) := by
  fun_induction Chain.readFuel fuel c k with
  | case1 c k => exact ReadOk.past hi (Nat.le_of_succ_le (Nat.zero_add c.curIdx ▸ hf)) k
  | case2 n c k hv => exact ReadOk.past hi (List.getElem?_eq_none_iff.mp hv) k
  | case3 n c k v hv hge ih =>
    -- exhausted / empty volume: step over it
    obtain ⟨hidx, habs, hrel⟩ := hi.in_vol hv
    refine ih (Inv.at_start hi.rlen hidx rfl ?_) (Nat.add_right_comm n 1 c.curIdx ▸ hf)
    dsimp only
    rw [prefixLen_succ _ _ _ hv, habs, Nat.le_antisymm hrel hge]
  | case4 n c k v hv hlt => exact readHere_ok c hi v k hv (Nat.not_le.mp hlt)

theorem read_ok (c : Chain) (k : Nat) (hi : Inv c) : ReadOk c.vols c.absPos k (c.read k) :=
  readFuel_ok _ c k hi (Nat.le_add_right _ _)

theorem seekWalk_spec (t : List (List Nat)) (idx0 pos abs0 : Nat) (rp : List Nat) (h : pos < total t) :
    ∃ j v r, seekWalk t idx0 pos abs0 rp = (idx0 + j, r, abs0 + pos, rp.set (idx0 + j) r)
      ∧ t[j]? = some v ∧ r < v.length ∧ pos = prefixLen t j + r := by
  fun_induction seekWalk t idx0 pos abs0 rp with
  | case1 => exact absurd h (Nat.not_lt_zero _)
  | case2 v t idx pos abs rp hlt => exact ⟨0, v, pos, rfl, rfl, hlt, (Nat.zero_add _).symm⟩
  | case3 v t idx pos abs rp hlt ih =>
    have hle : v.length ≤ pos := Nat.not_lt.mp hlt
    rw [total_cons] at h
    obtain ⟨j, w, r, e, hw, hr, hp⟩ := ih (Nat.sub_lt_left_of_lt_add hle h)
    refine ⟨j + 1, w, r, ?_, hw, hr, ?_⟩
    · rw [e, Nat.add_assoc abs, Nat.add_sub_cancel' hle, Nat.add_assoc idx, Nat.add_comm 1 j]
    · rw [prefixLen_cons_succ, Nat.add_assoc, ← hp, Nat.add_sub_cancel' hle]

structure SeekOk (c : Chain) (pos : Nat) (r : Nat × Chain) : Prop where
  ret : r.1 = pos
  abs : r.2.absPos = pos
  vols : r.2.vols = c.vols
  inv : Inv r.2

theorem seekAbs_ok (c : Chain) (pos : Nat) (hi : Inv c) : SeekOk c pos (c.seekAbs pos) := by
  rw [Chain.seekAbs]
  by_cases h : (c.absPos == pos) = true
  · rw [if_pos h]
    exact ⟨rfl, beq_iff_eq.mp h, rfl, hi⟩
  · rw [if_neg h]
    by_cases h : pos ≥ c.maxPos
    · rw [if_pos h]
      exact ⟨rfl, rfl, rfl, hi.rlen, .inr ⟨Nat.le_refl _, rfl, h⟩, fun h0 => absurd h0 (Nat.lt_irrefl 0)⟩
    · obtain ⟨j, v, r, e, hv, hr, hp⟩ := seekWalk_spec c.vols 0 pos 0 c.rpos (Nat.not_le.mp h)
      have hj : j < c.vols.length := (List.getElem?_eq_some_iff.mp hv).1
      rw [Nat.zero_add, Nat.zero_add] at e
      rw [if_neg h, e]
      exact ⟨rfl, rfl, rfl, List.length_set.trans hi.rlen, .inl ⟨hj, hp⟩,
        fun _ => ⟨v, hv, hr, List.getElem?_set_self (hi.rlen ▸ hj)⟩⟩

/-- `seek(Current)` and `seek(End)` are one relative seek from two bases. `k` is the contract's verdict as a function of the
    answer (its two arms for the operation at hand: `hpos`, `herr`), `r` what `Chain.step` returns for it -/
theorem seekRel_ok (c : Chain) (hi : Inv c) (base : Nat) (d : Int) {k : Res → Option Nat}
    (hpos : ∀ q, k (.pos q) = if (base : Int) + d ≥ 0 && (q : Int) == (base : Int) + d then some q else none)
    (herr : k .err = if (base : Int) + d < 0 then some c.absPos else none) {r : Res × Chain}
    (hr : r = match c.seekRel base d with | (some p, c') => (.pos p, c') | (none, c') => (.err, c')) :
    k r.1 = some r.2.absPos ∧ r.2.vols = c.vols ∧ Inv r.2 := by
  by_cases hneg : (base : Int) + d < 0
  · rw [hr, show c.seekRel base d = (none, c) from if_pos hneg]
    exact ⟨herr.trans (if_pos hneg), rfl, hi⟩
  · have h0 := Int.not_lt.mp hneg
    have a := seekAbs_ok c ((base : Int) + d).toNat hi
    rw [hr, show c.seekRel base d = (some _, _) from if_neg hneg]
    refine ⟨(hpos _).trans ((if_pos ?_).trans (congrArg some (a.ret.trans a.abs.symm))), a.vols, a.inv⟩
    rw [a.ret, Bool.and_eq_true, decide_eq_true_eq, beq_iff_eq]
    exact ⟨h0, Int.toNat_of_nonneg h0⟩

theorem step_contract (c : Chain) (hi : Inv c) (op : Op) :
    contractStep c.vols.flatten c.absPos op (c.step op).1 = some (c.step op).2.absPos
      ∧ (c.step op).2.vols = c.vols ∧ Inv (c.step op).2 := by
  cases op with
  | read k =>
    have r := read_ok c k hi
    refine ⟨(if_pos ?_).trans (congrArg some r.abs.symm), r.vols, r.inv⟩
    simp only [Bool.and_eq_true, Bool.or_eq_true, decide_eq_true_eq, beq_iff_eq, bne_iff_ne]
    exact ⟨⟨r.le, r.data⟩, or_assoc.mpr (r.nonempty.imp_left Nat.ne_of_gt)⟩
  | seekStart n =>
    have r := seekAbs_ok c n hi
    exact ⟨(if_pos (beq_iff_eq.mpr r.ret)).trans (congrArg some r.abs.symm), r.vols, r.inv⟩
  | seekCur d =>
    -- the verdict on `seekCur d` is `k`, from base `absPos`; `Chain.step` is the `match` on `seekRel`
    exact seekRel_ok c hi c.absPos d (k := contractStep c.vols.flatten c.absPos (.seekCur d)) (fun _ => rfl) rfl rfl
  | seekEnd d =>
    have hm : c.maxPos = c.vols.flatten.length := total_eq_flatten _
    exact seekRel_ok c hi c.vols.flatten.length d (k := contractStep c.vols.flatten c.absPos (.seekEnd d)) (fun _ => rfl) rfl
      (by rw [Chain.step, Chain.seekEnd, hm]; rfl)

theorem run_contract (ops : List Op) (c : Chain) (hi : Inv c) :
    contractOk c.vols.flatten c.absPos ops (c.run ops) = true := by
  induction ops generalizing c with
  | nil => rfl
  | cons op t ih =>
    obtain ⟨h1, h2, h3⟩ := step_contract c hi op
    rw [Chain.run, contractOk, h1, ← h2]
    exact ih _ h3

end Chn
