import Adlt.Dlt.Spec
import Adlt.Dlt.Framed
/-! Parsing at the start of an encoded well-formed message, and at a non-marker offset. -/
namespace Dp

theorem size_indep (a b : UInt8) (l1 l2 : Nat) :
    ({ htyp := a, mcnt := b, len := l1 } : StdHdr).size = ({ htyp := a, mcnt := b, len := l2 } : StdHdr).size := rfl

theorem len_bytes (n : Nat) (h : n < 65536) :
    (UInt8.ofNat (n / 256)).toNat * 256 + (UInt8.ofNat (n % 256)).toNat = n := by
  -- the two digits of `n` to the base 256, both below 256
  rw [UInt8.toNat_ofNat', UInt8.toNat_ofNat', Nat.mod_mod, Nat.mod_eq_of_lt (Nat.div_lt_of_lt_mul h)]
  exact Nat.div_add_mod' n 256

theorem wf_facts (serial : Bool) (r : RawMsg) (h : r.wf serial = true) :
    r.sh.length = (if serial then 0 else 12) ∧ r.add.length + 4 = r.std.size ∧ r.len < 65536 := by
  simp only [RawMsg.wf, Bool.and_eq_true, beq_iff_eq, decide_eq_true_eq] at h
  exact ⟨by cases serial <;> simpa using h.1.1, h.1.2, h.2⟩

/-- a message on the wire under any framing; `r.enc false = encF storageF r` and `r.enc true = encF serialF r` by `rfl` -/
def encF (F : Framing) (r : RawMsg) : Bytes :=
  F.pat ++ r.sh ++ [r.htyp, r.mcnt, UInt8.ofNat (r.len / 256), UInt8.ofNat (r.len % 256)] ++ r.add ++ r.payload

theorem encF_length (F : Framing) (r : RawMsg) (hpat : F.pat.length = 4) (hsh : 4 + r.sh.length = F.hdr) :
    (encF F r).length = F.hdr + r.len := by
  unfold encF
  -- `((4 + sh) + 4 + add) + payload`, and `r.len` is `4 + add + payload` by `rfl`
  rw [List.length_append, List.length_append, List.length_append, List.length_append, hpat, hsh, Nat.add_assoc F.hdr,
    Nat.add_assoc F.hdr]
  rfl

def hdrLen (serial : Bool) : Nat := if serial then 4 else 16

theorem enc_length (serial : Bool) (r : RawMsg) (hw : r.wf serial = true) : (r.enc serial).length = hdrLen serial + r.len := by
  have hsh := (wf_facts serial r hw).1
  cases serial  -- `apply`, here and below: it compares the two sides once, `exact` twice
  · apply encF_length storageF r rfl (by rw [hsh]; rfl)
  · apply encF_length serialF r rfl (by rw [hsh]; rfl)

/-- an encoded message whose header fits its flags, followed by any `rest` on which the corruption heuristic does not fire,
    parses to exactly that message (all header fields, all payload bytes) and consumes exactly its length -/
theorem parseFramed_enc (F : Framing) (i : Nat) (r : RawMsg) (rest : Bytes) (hpat : F.pat.length = 4)
    (hsh : 4 + r.sh.length = F.hdr) (hadd : r.add.length + 4 = r.std.size) (hlen : r.len < 65536)
    (hh : heuristicFires F.pat (encF F r ++ rest) (encF F r).length = false) :
    parseFramed F i (encF F r ++ rest) = .ok ((encF F r).length,
      fromHeaders i (F.secs (F.pat ++ r.sh)) (F.micros (F.pat ++ r.sh)) (F.ecu (F.pat ++ r.sh)) r.std r.add r.payload) := by
  have hfit : F.hdr + r.std.len ≤ (encF F r ++ rest).length :=
    encF_length F r hpat hsh ▸ (List.sublist_append_left (encF F r) rest).length_le
  rw [encF_length F r hpat hsh] at hh ⊢
  -- the input `d`, piece by piece: the framing header, and what is left behind it (`t1`), behind the four bytes of the
  -- standard header (`t2`), behind the optional parts (`t3`)
  have henc : encF F r ++ rest = (F.pat ++ r.sh) ++ ([r.htyp, r.mcnt, UInt8.ofNat (r.len / 256), UInt8.ofNat (r.len % 256)] ++
      (r.add ++ (r.payload ++ rest))) := by simp only [encF, List.append_assoc]
  generalize encF F r ++ rest = d at *
  have hhd : (F.pat ++ r.sh).length = F.hdr := by rw [List.length_append, hpat]; exact hsh
  have s0 : d.take F.hdr = F.pat ++ r.sh := by rw [henc, List.take_left' hhd]
  have t1 := congrArg (List.drop F.hdr) henc
  rw [List.drop_left' hhd] at t1
  have t2 : d.drop (F.hdr + 4) = r.add ++ (r.payload ++ rest) := by rw [← List.drop_drop, t1]; rfl
  have t3 : d.drop (F.hdr + r.std.size) = r.payload ++ rest := by
    rw [← hadd, Nat.add_comm r.add.length, ← Nat.add_assoc, ← List.drop_drop, t2, List.drop_left]
  have hrl : r.std.size + r.payload.length = r.std.len := by rw [← hadd, Nat.add_comm _ 4]; rfl
  have hsz := Nat.le.intro hrl
  have hstd : stdAt F.hdr d = r.std := by
    rw [stdAt_slice, t1]
    apply congrArg (StdHdr.mk r.htyp r.mcnt) (len_bytes r.len hlen)
  have hp : isPat F.pat d = true := by
    unfold isPat
    rw [henc, List.append_assoc, List.take_left' hpat]; exact beq_self_eq_true _
  rw [parseFramed_ite]
  unfold msgAt
  dsimp only
  rw [hstd, hp, s0, t2, t3, List.take_left' (Nat.eq_sub_of_add_eq hadd), List.take_left' (Nat.eq_sub_of_add_eq' hrl),
    show heuristicFires F.pat d (F.hdr + r.std.len) = false from hh,
    if_neg (Nat.not_lt.mpr (parts_fit (four_le_size _) hsz hfit).1),
    if_neg (by decide), if_neg (Nat.not_lt.mpr hsz), if_neg (Nat.not_lt.mpr (Nat.le_sub_of_add_le' hfit)), if_neg (by decide)]
  rfl

theorem parseStorage_enc (i : Nat) (r : RawMsg) (hw : r.wf false = true) (rest : Bytes)
    (hh : heuristicFires storagePat (r.enc false ++ rest) (r.enc false).length = false) :
    parseStorage i (r.enc false ++ rest) = .ok ((r.enc false).length, r.msg false i) := by
  obtain ⟨hsh, hadd, hlen⟩ := wf_facts false r hw
  rw [parseStorage_eq, show r.enc false = encF storageF r from rfl,
    parseFramed_enc storageF i r rest rfl (by rw [hsh]; rfl) hadd hlen hh]
  -- the ECU id is the last four of the twelve bytes, so cutting four off changes nothing
  have e3 : (r.sh.drop 8).take 4 = r.sh.drop 8 := List.take_of_length_le (by rw [List.length_drop, hsh]; decide)
  simp only [RawMsg.msg, Bool.false_eq_true, if_false]
  rw [← e3]
  rfl

theorem parseSerial_enc (i : Nat) (r : RawMsg) (hw : r.wf true = true) (rest : Bytes)
    (hh : heuristicFires serialPat (r.enc true ++ rest) (r.enc true).length = false) :
    parseSerial i (r.enc true ++ rest) = .ok ((r.enc true).length, r.msg true i) := by
  obtain ⟨hsh, hadd, hlen⟩ := wf_facts true r hw
  rw [parseSerial_eq, show r.enc true = encF serialF r from rfl,
    parseFramed_enc serialF i r rest rfl (by rw [hsh]; rfl) hadd hlen hh]
  rfl

theorem parseStorage_garbage (i : Nat) (d : Bytes) (hlen : 20 ≤ d.length) (hp : isPat storagePat d = false) :
    parseStorage i d = .error .invalid := by
  rw [parseStorage_eq, parseFramed_error]; exact refusal_nopat storageF d hlen hp

theorem parseSerial_garbage (i : Nat) (d : Bytes) (hlen : 8 ≤ d.length) (hp : isPat serialPat d = false) :
    parseSerial i d = .error .invalid := by
  rw [parseSerial_eq, parseFramed_error]; exact refusal_nopat serialF d hlen hp

theorem parseStorage_short (i : Nat) (d : Bytes) (h : d.length < 20) : parseStorage i d = .error .notEnough := by
  rw [parseStorage_eq, parseFramed_error]; exact refusal_short storageF d h

theorem parseSerial_short (i : Nat) (d : Bytes) (h : d.length < 8) : parseSerial i d = .error .notEnough := by
  rw [parseSerial_eq, parseFramed_error]; exact refusal_short serialF d h

end Dp
