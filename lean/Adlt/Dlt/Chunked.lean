import Adlt.Buf.Fill
import Adlt.Dlt.Window
import Adlt.Dlt.Loop
/-! C04 (composition): `DltMessageIterator` over `LowMarkBufReader` over a source that answers reads in any sizes yields
    exactly what the iterator yields over the whole remaining byte string. `Reads orig r d` relates a reader to what it has
    still to hand out: filling keeps it, consuming `n` bytes of the window drops them from `d`. Every attempt is made on the
    window of a filled reader; `attempt_LM` says of either attempt that it answers there as on all of `d` and takes no more than
    the window holds, and `iterLM_eq` follows the passes of the loop with it.

    The reader model (Buf/LowMark.lean) moves its elements and never looks at them, and its driver generates and hashes them
    as numbers, so they are `Nat` there; `bytesOf` is what the parsers see of them. -/
namespace Dp
open Lmk

def bytesOf (l : List Nat) : Bytes := l.map Nat.toUInt8

theorem bytesOf_drop (l : List Nat) (n : Nat) : bytesOf (l.drop n) = (bytesOf l).drop n := by
  unfold bytesOf; rw [List.map_drop]

/-- the `loop` of `DltMessageIterator::next`, run over the buffered reader: every parse attempt sees `fill_buf()`,
    every success or skipped byte is `consume`d -/
def iterLM : Nat → ItSt → LM → List Msg × ItSt
  | 0, s, _ => ([], s)
  | fuel + 1, s, r =>
    let r1 : LM := if !s.detSerial then r.fill else r
    let res1 : LoopRes := if !s.detSerial then tryStorage s (bytesOf r1.window) else .again s
    match res1 with
    | .yield m n s' => let (ms, sf) := iterLM fuel s' (r1.consume n); (m :: ms, sf)
    | .stop s' => ([], s')
    | .skip s' => iterLM fuel s' (r1.consume 1)
    | .again s' =>
      if !s'.detStorage then
        let r2 := r1.fill
        match trySerial s' (bytesOf r2.window) with
        | .yield m n s'' => let (ms, sf) := iterLM fuel s'' (r2.consume n); (m :: ms, sf)
        | .stop s'' => ([], s'')
        | .skip s'' => iterLM fuel s'' (r2.consume 1)
        | .again s'' => ([], s'')
      else ([], s')

def restOf (orig : List Nat) (r : LM) : Bytes := bytesOf (orig.drop (r.absPos + r.pos))

theorem bytesOf_length (l : List Nat) : (bytesOf l).length = l.length := List.length_map _

/-- consuming no more than the window holds advances the logical position by just that -/
theorem _root_.Lmk.consume_pos (orig : List Nat) (r : LM) (n : Nat) (h : Lmk.Inv orig r) (hn : n ≤ r.window.length) :
    (r.consume n).absPos + (r.consume n).pos = r.absPos + r.pos + n := by
  have hlen : r.window.length ≤ r.cap - r.pos := window_eq orig r h ▸ List.length_take_le _ _
  show r.absPos + min (r.pos + n) r.cap = _
  rw [Nat.min_eq_left (Nat.add_le_of_le_sub' h.posLe (Nat.le_trans hn hlen)), Nat.add_assoc]

theorem good_split (orig : List Nat) (r : LM) (h : Lmk.Inv orig r) (hg : Good orig r) :
    ∃ tl, restOf orig r = bytesOf r.window ++ tl ∧ (tl = [] ∨ r.lowMark ≤ (bytesOf r.window).length) := by
  have hw := window_eq orig r h
  refine ⟨bytesOf ((orig.drop (r.absPos + r.pos)).drop (r.cap - r.pos)), ?_, ?_⟩
  · unfold restOf bytesOf
    rw [hw, ← List.map_append, List.take_append_drop]
  · cases hg with
    | inl hl =>
      right
      rw [bytesOf_length, hw, List.length_take, List.length_drop]
      -- the source reaches at least as far as the buffer
      have hsrc : r.cap - r.pos ≤ orig.length - (r.absPos + r.pos) :=
        Nat.add_sub_add_left r.absPos r.cap r.pos ▸ Nat.sub_le_sub_right h.inOrig _
      exact Nat.le_min.mpr ⟨hl, Nat.le_trans hl hsrc⟩
    | inr he =>
      left
      rw [List.drop_eq_nil_of_le (by rw [List.length_drop, ← he, Nat.add_sub_add_left]; exact Nat.le_refl _)]
      rfl

/-- an attempt decides on the parser's answer, so it takes no more than is there -/
theorem attempt_consumed (F : Framing) (serial judge : Bool) (s : ItSt) (w : Bytes) :
    (tryF F serial judge s w).consumed ≤ w.length := by
  unfold tryF
  cases hr : parseFramed F s.index w with
  | ok v => exact parseFramed_ok_le F s.index w v.1 v.2 hr
  | error e =>
    cases e with
    | invalid =>
      have h4 : F.hdr + 4 ≤ w.length := refusal_invalid_len F w ((parseFramed_error F s.index w _).mp hr)
      cases judge
      · exact Nat.zero_le _
      · exact Nat.le_trans (Nat.le_add_left 1 (F.hdr + 3)) h4
    | notEnough => cases judge <;> exact Nat.zero_le _

/-- the reader is ready, its low mark is at least `DLT_MIN_PARSE_BUFFER_SIZE`, and what it has still to hand out is `d` -/
structure Reads (orig : List Nat) (r : LM) (d : Bytes) : Prop where
  ready : Props.C04Ready orig r
  low : 16 + 65535 + Gen.dltParseLookAhead ≤ r.lowMark
  rest : restOf orig r = d

/-- consuming `n` bytes of the window is dropping them from what is left -/
theorem Reads.consume {orig : List Nat} {r : LM} {d : Bytes} (h : Reads orig r d) (n : Nat) (hn : n ≤ r.window.length) :
    Reads orig (r.consume n) (d.drop n) := by
  refine ⟨ready_consume orig r n h.ready, h.low, ?_⟩
  rw [← h.rest]
  unfold restOf
  rw [consume_pos orig r n h.ready.inv hn, ← bytesOf_drop, List.drop_drop]

/-- what every attempt over the reader does: fill, and decide on the window, which is the whole rest or at least as long as the
    low mark -/
theorem attempt_LM {orig : List Nat} {r : LM} {d : Bytes} (h : Reads orig r d) (F : Framing) (serial judge : Bool)
    (hF : F.hdr ≤ 16) (s : ItSt) :
    tryF F serial judge s (bytesOf r.fill.window) = tryF F serial judge s d ∧ Reads orig r.fill d ∧
    (tryF F serial judge s (bytesOf r.fill.window)).consumed ≤ r.fill.window.length := by
  obtain ⟨hr, hg, hlow, hpos⟩ := ready_fill orig r h.ready
  have he : restOf orig r.fill = d := by rw [← h.rest]; unfold restOf; rw [hpos]
  obtain ⟨tl, hsplit, hgood⟩ := good_split orig r.fill hr.inv hg
  refine ⟨?_, ⟨hr, hlow ▸ h.low, he⟩, ?_⟩
  · rw [← he, hsplit]
    unfold tryF
    cases hgood with
    | inl h0 => rw [h0, List.append_nil]
    | inr hw =>
      have hB : 16 + 65535 + 4 ≤ (bytesOf r.fill.window).length := Nat.le_trans (hlow ▸ h.low) hw
      rw [parseFramed_window_max F s.index _ tl (Nat.le_trans (Nat.add_le_add_right (Nat.add_le_add_right hF _) _) hB)]
  · rw [← bytesOf_length r.fill.window]; exact attempt_consumed F _ _ s _

/-- **chunking independence** on the model: over a ready reader whose low mark is at least `DLT_MIN_PARSE_BUFFER_SIZE`, the
    iterator yields what the iterator over the whole rest of the source yields -/
theorem iterLM_eq (orig : List Nat) (fuel : Nat) (s : ItSt) (r : LM) (d : Bytes) (h : Reads orig r d) :
    iterLM fuel s r = iterAll fuel s d := by
  induction fuel generalizing s r d with
  | zero => rfl
  | succ k ih =>
    rw [iterLM, iterAll_succ, pass]
    cases s.detSerial
    · -- the storage attempt, over `r.fill`; if it decides nothing, the serial attempt over `r.fill.fill`
      obtain ⟨e1, h1, hc1⟩ := attempt_LM h storageF false s.detStorage (by decide) s
      rw [if_pos Bool.not_false, if_pos Bool.not_false, if_pos Bool.not_false]
      rw [tryStorage_eq, ← e1]
      generalize tryF storageF false s.detStorage s (bytesOf r.fill.window) = res at hc1 ⊢
      -- consuming `n` bytes of the window is dropping them from the rest
      cases res with
      | yield m n s' => dsimp only; rw [ih s' _ _ (h1.consume n hc1)]
      | skip s' => exact ih s' _ _ (h1.consume 1 hc1)
      | stop s' => rfl
      | again s' =>
        dsimp only
        split
        · obtain ⟨e2, h2, hc2⟩ := attempt_LM h1 serialF true true (by decide) s'
          rw [trySerial_eq, ← e2]
          generalize tryF serialF true true s' (bytesOf r.fill.fill.window) = res2 at hc2 ⊢
          cases res2 with
          | yield m n s'' => dsimp only; rw [ih s'' _ _ (h2.consume n hc2)]
          | skip s'' => exact ih s'' _ _ (h2.consume 1 hc2)
          | stop s'' | again s'' => rfl
        · rfl
    · -- serial framing latched: no storage attempt, no first fill
      simp only [Bool.not_true, Bool.false_eq_true, if_false]
      split
      · obtain ⟨e2, h2, hc2⟩ := attempt_LM h serialF true true (by decide) s
        rw [trySerial_eq, ← e2]
        generalize tryF serialF true true s (bytesOf r.fill.window) = res2 at hc2 ⊢
        cases res2 with
        | yield m n s'' => dsimp only; rw [ih s'' _ _ (h2.consume n hc2)]
        | skip s'' => exact ih s'' _ _ (h2.consume 1 hc2)
        | stop s'' | again s'' => rfl
      · rfl

end Dp
