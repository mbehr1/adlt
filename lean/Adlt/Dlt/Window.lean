import Adlt.Dlt.Framed
/-! C04: a parser reads nothing beyond the message and the four look-ahead bytes of its corruption heuristic: on any window
    that holds the announced message plus 4 bytes it answers exactly as on the whole input. `Props.C04_parse_window` says it
    of the storage-header parser with the announced length read as the code reads it (`lenOf`), `parse_window_serial` of the
    serial one; both are `parseFramed_window` at a framing. -/
namespace Dp

/-- the length field of the standard header of a (candidate) message at the start of `w` -/
def lenOf (w : Bytes) : Nat :=
  match w.drop 18 with
  | l1 :: l2 :: _ => l1.toNat * 256 + l2.toNat
  | _ => 0

theorem take_append_of_le (w rest : Bytes) (n : Nat) (h : n ≤ w.length) : (w ++ rest).take n = w.take n :=
  List.take_append_of_le_length h

theorem lenOf_eq (w : Bytes) (h : 20 ≤ w.length) : lenOf w = (stdAt 16 w).len := by
  unfold lenOf
  rw [show w.drop 18 = (w.drop 16).drop 2 by rw [List.drop_drop], drop_eq_cons4 w 16 h]
  rfl

theorem parse_window_serial (i : Nat) (w rest : Bytes) (hl : 4 + (stdAt 4 w).len + 4 ≤ w.length) :
    parseSerial i (w ++ rest) = parseSerial i w := by
  rw [parseSerial_eq, parseSerial_eq]
  exact parseFramed_window serialF i w rest hl

end Dp
