import Adlt.Dlt.Spec
import Adlt.Util.Parse
/-! Line-protocol glue for the DLT framing / write model.
    case:  `<i0> <s|d> <n|b> <item>;<item>…`   item = `g:<hex>` | `m:<shhex>,<htyp>,<mcnt>,<addhex>,<payloadhex>`
    obs:   `<msg> <msg> … | <index> <processed> <skipped> <detStorage> <detSerial> | <writehex>:<rt> …` -/
namespace Dp
open Util

def parseItem (s : String) : Item :=
  if s.startsWith "g:" then .g (hexBytes (s.drop 2).toString)
  else match ((s.drop 2).toString.splitOn ",") with
    | [sh, htyp, mcnt, add, pl] =>
      .m { sh := hexBytes sh, htyp := UInt8.ofNat (nat! htyp), mcnt := UInt8.ofNat (nat! mcnt), add := hexBytes add, payload := hexBytes pl }
    | _ => .g []

structure Case where
  i0 : Nat
  serial : Bool
  bigMicros : Bool
  items : List Item

def parseCase (line : String) : Case :=
  match line.splitOn " " with
  | [i0, f, fl, its] => { i0 := nat! i0, serial := f == "s", bigMicros := fl == "b", items := (fields its ";").map parseItem }
  | [i0, f, fl] => { i0 := nat! i0, serial := f == "s", bigMicros := fl == "b", items := [] }
  | _ => { i0 := 0, serial := false, bigMicros := false, items := [] }

def showMsg (m : Msg) : String :=
  s!"{m.index},{m.recvUs},{hexOf m.ecu},{m.tsDms},{m.std.htyp.toNat},{m.std.mcnt.toNat},{m.std.len},{match m.ext with | some e => hexOf e | none => "-"},{hexOf m.payload}"

def parseMsgObs (s : String) : Option Msg :=
  match s.splitOn "," with
  | [i, r, e, t, h, c, l, x, p] =>
    some { index := nat! i, recvUs := nat! r, ecu := hexBytes e, tsDms := nat! t,
           std := { htyp := UInt8.ofNat (nat! h), mcnt := UInt8.ofNat (nat! c), len := nat! l },
           ext := if x == "-" then none else some (hexBytes x), payload := hexBytes p }
  | _ => none

def runModel (c : Case) : List Msg × ItSt :=
  let d := render c.serial c.items
  iterAll (d.length + 2) { index := c.i0 } d

def showWrite (m : Msg) : String :=
  match toWrite m with
  | some w => hexOf w ++ ":1"
  | none => "PANIC:0"

def modelObs (c : Case) : String :=
  let (ms, s) := runModel c
  " ".intercalate (ms.map showMsg) ++ s!" | {s.index} {s.processed} {s.skipped} {b2s s.detStorage} {b2s s.detSerial} | " ++
    " ".intercalate (ms.map showWrite)

def oracleOn (c : Case) (obs : String) : String :=
  match obs.splitOn " | " with
  | [a, b, w] =>
    let msgs := (fields a " ").filterMap parseMsgObs
    let cnt := nats b " "
    let o : ItObs := { msgs := msgs, index := cnt.getD 0 0, processed := cnt.getD 1 0, skipped := cnt.getD 2 0 }
    let c01 :=
      if (fields a " ").length != msgs.length then "FAIL:unparsable"
      else if !Spec.inRange c.serial c.items then "skip:out-of-range"
      else if o.msgs != expected c.serial c.i0 c.items then
        (if o.msgs.length != (expected c.serial c.i0 c.items).length then "FAIL:message-count" else "FAIL:message-content")
      else if Spec.C01 c.serial c.i0 c.items o then "ok" else "FAIL:counters"
    let ws := fields w " "
    let c02 :=
      if c.bigMicros then "skip:micros-out-of-range"
      else if ws.length != msgs.length then "FAIL:write-count"
      else
        let bad := (msgs.zip ws).filter fun (m, wstr) =>
          match wstr.splitOn ":" with
          | [hx, rt] => hx == "PANIC" || rt != "1" || !Spec.C02one m (hexBytes hx)
          | _ => true
        match bad with
        | [] => "ok"
        | (_, wstr) :: _ => if wstr.startsWith "PANIC" then "FAIL:write-panics" else if wstr.endsWith ":0" then "FAIL:impl-roundtrip" else "FAIL:roundtrip-or-normal-form"
    s!"C01={c01};C02={c02}"
  | _ => if obs == "PANIC" then "C01=FAIL:panic;C02=FAIL:panic" else "C01=FAIL:unparsable;C02=FAIL:unparsable"

def branches (c : Case) : String :=
  let (ms, s) := runModel c
  let tags : List String :=
    (if ms.length > 0 then ["msg"] else []) ++ (if ms.length > 1 then ["multi"] else []) ++
    (if s.skipped > 0 then ["skipped"] else []) ++ (if c.serial then ["serial"] else ["storage"]) ++
    (if Spec.inRange c.serial c.items then ["in-range"] else ["malformed"]) ++
    (if ms.any (·.ext.isSome) then ["ext"] else []) ++ (if ms.any (fun m => m.std.hasSid) then ["sid"] else []) ++
    (if ms.any (fun m => m.std.hasEcu) then ["ecu"] else []) ++ (if ms.any (fun m => m.std.hasTs) then ["ts"] else []) ++
    (if ms.any (fun m => m.std.bigEndian) then ["be"] else []) ++
    (if ms.any (fun m => m.payload.length == 0) then ["empty-payload"] else []) ++
    (if ms.any (fun m => m.payload.length > 1000) then ["big-payload"] else [])
  ",".intercalate tags

def doLine (line : String) : String :=
  let (cs, impl) := match line.splitOn "\t" with
    | [c, i] => (c, i)
    | [c] => (c, "")
    | _ => ("", "")
  let c := parseCase cs
  let mobs := modelObs c
  let oi := if impl == "" then "-" else oracleOn c impl
  s!"{mobs}\t{oi}\t{oracleOn c mobs}\t{branches c}"

/-! ### C04 chunking: the iterator over a low-mark buffered reader with short reads vs the parse of the whole byte string -/

def hashBytes (l : Bytes) : Nat := l.foldl (fun h b => (h * 31 + b.toNat + 1) % 4294967291) 7

def showMsgShort (m : Msg) : String :=
  s!"{m.index},{m.recvUs},{hexOf m.ecu},{m.tsDms},{m.std.htyp.toNat},{m.std.len},{m.payload.length},{hashBytes m.payload}"

def doLineLw (line : String) : String :=
  let (cs, impl) := match line.splitOn "\t" with
    | [c, i] => (c, i)
    | [c] => (c, "")
    | _ => ("", "")
  match cs.splitOn " | " with
  | [_cfg, dpc] =>
    let c := parseCase dpc
    let (ms, s) := runModel c
    let mobs := " ".intercalate (ms.map showMsgShort) ++ s!" | {s.index} {s.processed} {s.skipped} {b2s s.detStorage} {b2s s.detSerial}"
    -- the property *is* the correspondence here: whatever the chunking, the implementation must find what the
    -- whole-buffer parse finds
    let oi := if impl == "" then "-" else if impl == mobs then "C04=ok" else if impl == "PANIC" then "C04=FAIL:panic" else "C04=FAIL:chunked-differs-from-whole"
    let tags : List String :=
      (if ms.length > 1 then ["multi"] else []) ++ (if s.skipped > 0 then ["skipped"] else []) ++
      (if ms.any (fun m => m.payload.length > 60000) then ["max-size-msg"] else []) ++
      (if (render c.serial c.items).length > 70000 then ["needs-refill"] else []) ++ (if c.serial then ["serial"] else [])
    s!"{mobs}\t{oi}\tC04=ok\t{",".intercalate tags}"
  | _ => "bad\tC04=FAIL:unparsable\tC04=ok\t"

/-! ### C04 position: a suffix read alone, behind k1 and behind k2 complete messages -/

def prefixBytes (serial : Bool) (k : Nat) : Bytes :=
  (List.range k).flatMap fun i =>
    render serial [.m { sh := if serial then [] else [1,0,0,0,0,0,0,0,80,82,69,48], htyp := 0x20, mcnt := UInt8.ofNat i, add := [],
                        payload := [9, UInt8.ofNat i] }]

def readingPos (serial : Bool) (k : Nat) (s : Bytes) : String :=
  let d := prefixBytes serial k ++ s
  let ms := (iterAll (d.length + 2) { index := 1000 - k } d).1
  if ms.length < k then "PREFIX-LOST" else " ".intercalate ((ms.drop k).map showMsg)

def oraclePos (obs : String) : String :=
  match obs.splitOn " | " with
  | [x, y, z] =>
    if y == "PREFIX-LOST" || z == "PREFIX-LOST" then "C04=FAIL:messages-in-front-not-recognised"
    else if y != z then "C04=FAIL:position-dependent-behind-messages"
    else if x != y then "C04=FAIL:position-dependent-before-format-latched"
    else "C04=ok"
  | _ => if obs == "PANIC" then "C04=FAIL:panic" else "C04=FAIL:unparsable"

def doLinePos (line : String) : String :=
  let (cs, impl) := match line.splitOn "\t" with
    | [c, i] => (c, i)
    | [c] => (c, "")
    | _ => ("", "")
  match cs.splitOn " | " with
  | [cfg, dpc] =>
    let ks := nats cfg " "
    let c := parseCase dpc
    let s := render c.serial c.items
    let a := readingPos c.serial 0 s
    let b := readingPos c.serial (ks.getD 0 1) s
    let cc := readingPos c.serial (ks.getD 1 2) s
    let mobs := s!"{a} | {b} | {cc}"
    let tags : List String :=
      (if c.serial then ["serial"] else ["storage"]) ++ (if a != "" then ["msgs-alone"] else []) ++ (if b != "" then ["msgs-behind"] else []) ++
      (if a != b then ["latch-matters"] else ["same"]) ++ (if Spec.inRange c.serial c.items then ["in-range"] else ["malformed"])
    s!"{mobs}\t{if impl == "" then "-" else oraclePos impl}\t{oraclePos mobs}\t{",".intercalate tags}"
  | _ => "bad\tC04=FAIL:unparsable\tC04=ok\t"

end Dp
