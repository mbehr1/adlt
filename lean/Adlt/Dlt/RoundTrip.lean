import Adlt.Dlt.Enc
/-! C02: `toWrite` of a message in the range of the parser emits the encoding of a well-formed raw message (the *normal
    form*: version 1, no ECU id / session id in the standard header, length recomputed), whose parse gives back every field;
    and what the storage parser yields is in that range (`parse_inRange`). -/
namespace Dp

/-- what `roundtrip` asks of a message; the storage parser produces such messages from every storage header with
    sub-second microseconds (`parse_inRange`) -/
structure InRange (m : Msg) : Prop where
  ecu4 : m.ecu.length = 4
  ext10 : ∀ e, m.ext = some e → e.length = 10
  ts32 : m.tsDms < 4294967296
  noTs : m.std.hasTs = false → m.tsDms = 0
  secs32 : m.recvUs / 1000000 < 4294967296
  fits : writeLen m < 65536

/-- the raw message `toWrite` emits -/
def rawOf (m : Msg) : RawMsg :=
  { sh := le32Bytes (m.recvUs / 1000000 % 4294967296) ++ le32Bytes (m.recvUs % 1000000) ++ m.ecu,
    htyp := writeHtyp m, mcnt := m.std.mcnt,
    add := (if m.std.hasTs then be32Bytes m.tsDms else []) ++ (m.ext.getD []),
    payload := m.payload }

theorem le32Bytes_length (n : Nat) : (le32Bytes n).length = 4 := rfl
theorem be32Bytes_length (n : Nat) : (be32Bytes n).length = 4 := rfl

theorem be32_be32Bytes (n : Nat) (h : n < 4294967296) : be32 (be32Bytes n) = n := by
  simp only [be32Bytes, le32Bytes, List.reverse_cons, List.reverse_nil, List.nil_append, List.cons_append, be32, UInt8.toNat_ofNat', Nat.mod_mod]
  -- the four digits of `n` to the base 256, recombined from the most significant one down
  have hc : n / 16777216 < 256 := Nat.div_lt_of_lt_mul h
  rw [Nat.mod_eq_of_lt hc, show n / 16777216 = n / 256 / 256 / 256 by rw [Nat.div_div_eq_div_mul, Nat.div_div_eq_div_mul],
    show n / 65536 = n / 256 / 256 from (Nat.div_div_eq_div_mul n 256 256).symm,
    Nat.div_add_mod', Nat.div_add_mod', Nat.div_add_mod']

theorem le32_le32Bytes (n : Nat) (h : n < 4294967296) : le32 (le32Bytes n) = n := be32_be32Bytes n h

/-- the flag bits of the header byte `toWrite` composes -/
theorem htyp_bits : ∀ be ts ex : Bool,
    let h := UInt8.ofNat (32 + (if be then 2 else 0) + (if ts then 16 else 0) + (if ex then 1 else 0))
    (h &&& 1 != 0) = ex ∧ (h &&& 2 != 0) = be ∧ (h &&& 4 != 0) = false ∧ (h &&& 8 != 0) = false ∧ (h &&& 16 != 0) = ts := by
  decide

theorem rawOf_std_flags (m : Msg) :
    (rawOf m).std.hasExt = m.ext.isSome ∧ (rawOf m).std.bigEndian = m.std.bigEndian ∧ (rawOf m).std.hasEcu = false ∧
    (rawOf m).std.hasSid = false ∧ (rawOf m).std.hasTs = m.std.hasTs :=
  htyp_bits m.std.bigEndian m.std.hasTs m.ext.isSome

theorem ext_len (m : Msg) (h : InRange m) : (m.ext.getD []).length = if m.ext.isSome then 10 else 0 := by
  cases he : m.ext with
  | none => rfl
  | some e => exact h.ext10 e he

theorem rawOf_add_len (m : Msg) (h : InRange m) :
    (rawOf m).add.length = (if m.std.hasTs then 4 else 0) + (if m.ext.isSome then 10 else 0) := by
  simp only [rawOf, List.length_append, ext_len m h]
  cases m.std.hasTs <;> rfl

theorem rawOf_len (m : Msg) (h : InRange m) : (rawOf m).len = writeLen m := by
  unfold RawMsg.len writeLen
  rw [rawOf_add_len m h]
  simp only [rawOf, ← Nat.add_assoc]  -- `4 + (ts + ext)` is `4 + ts + ext`

theorem rawOf_wf (m : Msg) (h : InRange m) : (rawOf m).wf false = true := by
  obtain ⟨f1, _, f3, f4, f5⟩ := rawOf_std_flags m
  simp only [RawMsg.wf, Bool.false_eq_true, if_false, Bool.and_eq_true, beq_iff_eq, decide_eq_true_eq]
  refine ⟨⟨?_, ?_⟩, ?_⟩
  · simp [rawOf, le32Bytes_length, h.ecu4]
  · unfold StdHdr.size
    rw [f1, f3, f4, f5, rawOf_add_len m h, if_neg Bool.false_ne_true, Nat.add_zero, Nat.add_zero, Nat.add_comm,
      ← Nat.add_assoc]
  · rw [rawOf_len m h]; exact h.fits

theorem toWrite_eq_enc (m : Msg) (h : InRange m) : toWrite m = some ((rawOf m).enc false) := by
  unfold toWrite
  rw [if_neg (Nat.not_le.mpr h.fits)]
  unfold RawMsg.enc marker
  simp only [Bool.false_eq_true, if_false, rawOf_len m h]
  simp only [rawOf, ← List.append_assoc]  -- `toWrite` appends to the left

/-- **normal form**: reading back what `toWrite` emits gives the message itself, renumbered, under the header byte `toWrite`
    composed -/
theorem msg_rawOf (m : Msg) (h : InRange m) (i : Nat) :
    (rawOf m).msg false i = { m with index := i, std := (rawOf m).std } := by
  obtain ⟨f1, _, f3, f4, f5⟩ := rawOf_std_flags m
  simp only [RawMsg.msg, Bool.false_eq_true, if_false, fromHeaders, f1, f3, f4, f5]
  -- index, header and payload are copied, and without an ECU id in the header the ECU id is the storage header's, the last
  -- part of `sh`; left are reception time, timestamp and extended header
  rw [Msg.mk.injEq]
  refine ⟨rfl, ?_, rfl, ?_, rfl, ?_, rfl⟩
  · -- `sh` starts with two four-byte lists, so its slices are read off
    show le32 (le32Bytes (m.recvUs / 1000000 % 4294967296)) * 1000000 + le32 (le32Bytes (m.recvUs % 1000000)) = _
    rw [Nat.mod_eq_of_lt h.secs32, le32_le32Bytes _ h.secs32,
      le32_le32Bytes _ (Nat.lt_trans (Nat.mod_lt _ (by decide)) (by decide))]
    exact Nat.div_add_mod' m.recvUs 1000000
  · cases hts : m.std.hasTs with
    | false => exact (h.noTs hts).symm
    | true =>
      -- no ECU id, no session id: the timestamp stands first in `add`
      have : (rawOf m).add.take 4 = be32Bytes m.tsDms := by
        simp only [rawOf, hts, if_true]
        exact List.take_left' (be32Bytes_length _)
      rw [if_pos (rfl : true = true), Nat.add_zero, List.drop_zero,  -- the offset is `0 + 0`
        this, be32_be32Bytes _ h.ts32]
  · cases he : m.ext with
    | none => rfl
    | some e =>
      -- the extended header is the last ten bytes of `add`
      rw [if_pos Option.isSome_some]
      simp only [rawOf, he, Option.getD_some]
      rw [List.length_append, h.ext10 e he, Nat.add_sub_cancel, List.drop_left]

/-- `to_write` looks only at these fields -/
theorem toWrite_congr (a b : Msg) (h1 : a.recvUs = b.recvUs) (h2 : a.ecu = b.ecu) (h3 : a.tsDms = b.tsDms)
    (h4 : a.std.hasTs = b.std.hasTs) (h5 : a.std.mcnt = b.std.mcnt) (h6 : a.std.bigEndian = b.std.bigEndian)
    (h7 : a.ext = b.ext) (h8 : a.payload = b.payload) : toWrite a = toWrite b := by
  unfold toWrite writeLen writeHtyp
  rw [h1, h2, h3, h4, h5, h6, h7, h8]

theorem rawOf_msg_inRange (m : Msg) (h : InRange m) (i : Nat) : InRange ((rawOf m).msg false i) := by
  rw [msg_rawOf m h i]
  have f5 := (rawOf_std_flags m).2.2.2.2
  refine ⟨h.ecu4, h.ext10, h.ts32, fun hn => h.noTs (f5 ▸ hn), h.secs32, ?_⟩
  -- of the header the written length reads only whether a timestamp is there
  unfold writeLen
  dsimp only
  rw [f5]
  exact h.fits

/-- C02 on the model (`Props.C02_roundtrip` is this statement): `to_write` succeeds, the written bytes parse back to every
    field, and writing the re-read message reproduces them (normal form) -/
theorem roundtrip (m : Msg) (h : InRange m) (i : Nat) (rest : Bytes)
    (hh : ∀ w, toWrite m = some w → heuristicFires storagePat (w ++ rest) w.length = false) :
    ∃ w m', toWrite m = some w ∧ parseStorage i (w ++ rest) = .ok (w.length, m') ∧
      m'.ecu = m.ecu ∧ m'.recvUs = m.recvUs ∧ m'.tsDms = m.tsDms ∧ m'.std.hasTs = m.std.hasTs ∧ m'.std.mcnt = m.std.mcnt ∧
      m'.std.bigEndian = m.std.bigEndian ∧ m'.ext = m.ext ∧ m'.payload = m.payload ∧ m'.index = i ∧ toWrite m' = some w := by
  have hw := toWrite_eq_enc m h
  have hp := parseStorage_enc i (rawOf m) (rawOf_wf m h) rest (hh _ hw)
  obtain ⟨_, f2, _, _, f5⟩ := rawOf_std_flags m
  rw [msg_rawOf m h i] at hp
  -- every field but the header is the message's own
  exact ⟨_, _, hw, hp, rfl, rfl, rfl, f5, rfl, f2, rfl, rfl, rfl, Eq.trans (toWrite_congr _ m rfl rfl rfl f5 rfl f2 rfl rfl) hw⟩

theorem heuristic_nil (w : Bytes) : heuristicFires storagePat (w ++ []) w.length = false := by
  simp [heuristicFires]

theorem be32_lt (b : Bytes) : be32 b < 4294967296 := by
  unfold be32
  split
  · -- every digit is at most 255
    rename_i a b c d
    exact Nat.lt_succ_of_le (Nat.add_le_add (Nat.mul_le_mul_right 256 (Nat.add_le_add (Nat.mul_le_mul_right 256
      (Nat.add_le_add (Nat.mul_le_mul_right 256 (byte_le a)) (byte_le b))) (byte_le c))) (byte_le d))
  · decide

theorem le32_lt (b : Bytes) : le32 b < 4294967296 := be32_lt _

/-- what the flags say about the header size; the last clause: the rewritten header (timestamp and extended header kept,
    ECU and session id dropped) is not longer than the original -/
theorem size_ge (H : StdHdr) : (H.hasEcu = true → 8 ≤ H.size) ∧ (H.hasExt = true → 14 ≤ H.size) ∧
    4 + (if H.hasTs then 4 else 0) + (if H.hasExt then 10 else 0) ≤ H.size := by
  unfold StdHdr.size
  exact ⟨fun h => by rw [if_pos h]; omega, fun h => by rw [if_pos h]; omega, by omega⟩

theorem fromHeaders_inRange (i secs micros : Nat) (shEcu : Bytes) (H : StdHdr) (add payload : Bytes) (L : Nat)
    (hs : secs < 4294967296) (hm : micros < 1000000) (hE : shEcu.length = 4) (hadd : add.length = H.size - 4)
    (hpl : payload.length = L - H.size) (hL : H.size ≤ L) (hL2 : L < 65536) :
    InRange (fromHeaders i secs micros shEcu H add payload) := by
  -- `fromHeaders` is unfolded once, in the constructor's type: the six goals speak of `H`, `add` and `payload`
  have mk := @InRange.mk (fromHeaders i secs micros shEcu H add payload)
  simp only [fromHeaders] at mk
  refine mk ?_ ?_ ?_ ?_ ?_ ?_
  · split
    · rename_i hx
      exact List.length_take_of_le (by rw [hadd]; exact Nat.le_sub_of_add_le ((size_ge H).1 hx))
    · exact hE
  · intro e he
    split at he
    · rename_i hx
      cases he
      rw [List.length_drop]; exact Nat.sub_sub_self (by rw [hadd]; exact Nat.le_sub_of_add_le ((size_ge H).2.1 hx))
    · cases he
  · by_cases hx : H.hasTs = true
    · rw [if_pos hx]; exact be32_lt _
    · rw [if_neg hx]; decide
  · intro hn
    rw [hn]; rfl
  · -- the seconds of the reception time are `secs`
    rw [Nat.add_comm, Nat.add_mul_div_right _ _ (by decide), Nat.div_eq_of_lt hm, Nat.zero_add]; exact hs
  · -- the rewritten header keeps the timestamp and the extended header and drops the rest, so it is not longer
    have hx : (if H.hasExt then some (add.drop (add.length - 10)) else none).isSome = H.hasExt := by cases H.hasExt <;> rfl
    unfold writeLen
    dsimp only
    rw [hx]
    exact Nat.lt_of_le_of_lt (Nat.add_le_add (size_ge H).2.2 (Nat.le_of_eq hpl)) (by rw [Nat.add_sub_cancel' hL]; exact hL2)

theorem parse_inRange (i : Nat) (d : Bytes) (n : Nat) (m : Msg) (h : parseStorage i d = .ok (n, m))
    (hmic : le32 ((d.drop 8).take 4) < 1000000) : InRange m := by
  obtain ⟨h0, _, rfl⟩ := (parseFramed_ok storageF i d n m).mp (parseStorage_eq i d ▸ h)
  obtain ⟨_, hsz, hl, _⟩ := refusal_none storageF d h0
  obtain ⟨p1, p2, p3⟩ := parts_fit (four_le_size _) hsz hl
  rw [msgAt_storage]
  -- every slice the parser cuts lies inside `d`, so it has the length asked for
  exact fromHeaders_inRange _ _ _ _ _ _ _ (stdAt 16 d).len (le32_lt _) hmic
    (List.length_take_of_le (le_length_drop d (Nat.le_trans (by decide) p1))) (List.length_take_of_le (le_length_drop d p2))
    (List.length_take_of_le (le_length_drop d p3)) hsz (Nat.lt_succ_of_le (stdAt_len_le 16 d))

end Dp
