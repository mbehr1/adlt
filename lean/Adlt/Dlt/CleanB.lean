import Adlt.Dlt.Stream
/-! The executable hypothesis of C01 used by the oracle (`markerFree`: a linear scan over absolute offsets) implies the
    hypothesis of the stream theorems (`Clean`). -/
namespace Dp

theorem scan_spec (st : List Nat) (d : Bytes) (o : Nat) (h : markerFreeScan st o d = true) :
    ∀ j, j < d.length → (o + j) ∉ st → anyMarkerAt (d.drop j) = false := by
  fun_induction markerFreeScan st o d with
  | case1 => exact fun j hj => nomatch hj
  | case2 o x t ih =>
    rw [Bool.and_eq_true, Bool.or_eq_true, Bool.not_eq_true', List.contains_eq_mem, decide_eq_true_eq] at h
    intro j hj hn
    cases j with
    | zero => exact h.1.resolve_left hn
    | succ j => exact ih h.2 j (Nat.lt_of_succ_lt_succ hj) (by rwa [Nat.add_assoc, Nat.add_comm 1])

theorem starts_ge (serial : Bool) (items : List Item) (o x : Nat) (h : x ∈ starts serial o items) : o ≤ x := by
  fun_induction starts serial o items with
  | case1 => nomatch h
  | case2 o b t ih => exact Nat.le_trans (Nat.le_add_right _ _) (ih h)
  | case3 o r t ih =>
    exact (List.mem_cons.mp h).elim (fun e => Nat.le_of_eq e.symm) fun h => Nat.le_trans (Nat.le_add_right _ _) (ih h)

/-- scanning the rest of the stream from the absolute offset `o` of `items`, against the starts of `items` themselves -/
theorem clean_of_scan (serial : Bool) (items : List Item) : ∀ (o : Nat),
    (∀ j, j < (render serial items).length → (o + j) ∉ starts serial o items →
      anyMarkerAt ((render serial items).drop j) = false) →
    Clean serial items := by
  induction items with
  | nil => intro _ _; trivial
  | cons it t ih =>
    intro o H
    rw [render_cons, List.length_append] at H
    -- behind the head item `H` speaks of the tail; for a garbage item the starts of the list are those of the tail
    have htail : ∀ j, j < (render serial t).length → (o + (it.bytes serial).length + j) ∉ starts serial o (it :: t) →
        anyMarkerAt ((render serial t).drop j) = false := fun j hj hn => by
      have := H ((it.bytes serial).length + j) (Nat.add_lt_add_left hj _)
      rw [List.drop_length_add_append, ← Nat.add_assoc] at this
      exact this hn
    -- the head item's offsets are no starts of the tail
    have hhead : ∀ j, j < (it.bytes serial).length → (o + j) ∉ starts serial (o + (it.bytes serial).length) t :=
      fun j hj hm => Nat.not_le_of_gt (Nat.add_lt_add_left hj o) (starts_ge serial t _ _ hm)
    cases it with
    | g b => exact ⟨fun j hj => H j (Nat.lt_add_right _ hj) (hhead j hj), ih _ htail⟩
    | m r =>
      -- the message's start is a start, and no other of its offsets nor any of the tail's is that one (the message is not
      -- empty: it begins with the marker)
      have hpos : 0 < (r.enc serial).length := by cases serial <;> apply Nat.succ_pos
      refine ⟨fun j h1 h2 => H j (Nat.lt_add_right _ h2) fun hm => ?_,
        ih (o + (r.enc serial).length) fun j hj hn => htail j hj fun hm => ?_⟩
      · exact (List.mem_cons.mp hm).elim (Nat.ne_of_gt (Nat.lt_add_of_pos_right h1)) (hhead j h2)
      · exact (List.mem_cons.mp hm).elim (Nat.ne_of_gt (Nat.lt_add_right _ (Nat.lt_add_of_pos_right hpos))) hn

theorem markerFree_clean (serial : Bool) (items : List Item) (h : markerFree serial items = true) : Clean serial items :=
  clean_of_scan serial items 0 (scan_spec _ _ 0 h)

end Dp
