import Adlt.Dlt.Write
/-! Executable statements of C01 (framing) and C02 (write/parse round trip) over observations. -/
namespace Dp

/-- the parts of one well-formed message as the generator chose them -/
structure RawMsg where
  sh : Bytes          -- storage framing: 12 bytes after the marker (secs LE, micros LE, ecu); serial framing: []
  htyp : UInt8
  mcnt : UInt8
  add : Bytes         -- optional header parts (ecu, session id, timestamp) followed by the extended header
  payload : Bytes
deriving Repr, DecidableEq

def RawMsg.len (r : RawMsg) : Nat := 4 + r.add.length + r.payload.length
def RawMsg.std (r : RawMsg) : StdHdr := { htyp := r.htyp, mcnt := r.mcnt, len := r.len }
def RawMsg.wf (serial : Bool) (r : RawMsg) : Bool :=
  (if serial then r.sh.length == 0 else r.sh.length == 12) && r.add.length + 4 == r.std.size && r.len < 65536

def marker (serial : Bool) : Bytes := if serial then serialPat else storagePat

/-- the bytes of a message on the wire -/
def RawMsg.enc (serial : Bool) (r : RawMsg) : Bytes :=
  marker serial ++ r.sh ++ [r.htyp, r.mcnt, UInt8.ofNat (r.len / 256), UInt8.ofNat (r.len % 256)] ++ r.add ++ r.payload

/-- what reading it must yield: every header field and payload byte -/
def RawMsg.msg (serial : Bool) (r : RawMsg) (index : Nat) : Msg :=
  if serial then fromHeaders index ((2023 - 1970) * 365 * 24 * 60 * 60) 0 [0x44, 0x4c, 0x53, 0] r.std r.add r.payload
  else fromHeaders index (le32 (r.sh.take 4)) (le32 ((r.sh.drop 4).take 4)) (r.sh.drop 8) r.std r.add r.payload

inductive Item where
  | g (b : Bytes)
  | m (r : RawMsg)
deriving Repr

def Item.bytes (serial : Bool) : Item → Bytes
  | .g b => b
  | .m r => r.enc serial

def render (serial : Bool) (items : List Item) : Bytes := items.flatMap (Item.bytes serial)

def anyMarkerAt (d : Bytes) : Bool := isPat storagePat d || isPat serialPat d

/-- offsets (into the rendered stream) at which a message starts -/
def starts (serial : Bool) : Nat → List Item → List Nat
  | _, [] => []
  | o, .g b :: t => starts serial (o + b.length) t
  | o, .m r :: t => o :: starts serial (o + (r.enc serial).length) t

/-- linear scan: at every offset that is not a message start no marker begins -/
def markerFreeScan (st : List Nat) : Nat → Bytes → Bool
  | _, [] => true
  | o, x :: t => (st.contains o || !anyMarkerAt (x :: t)) && markerFreeScan st (o + 1) t

/-- neither frame marker occurs anywhere except at the start of each message (incl. straddling boundaries) -/
def markerFree (serial : Bool) (items : List Item) : Bool :=
  markerFreeScan (starts serial 0 items) 0 (render serial items)

def allWf (serial : Bool) (items : List Item) : Bool :=
  items.all fun | .g _ => true | .m r => r.wf serial

def expected (serial : Bool) : Nat → List Item → List Msg
  | _, [] => []
  | i, .g _ :: t => expected serial i t
  | i, .m r :: t => r.msg serial i :: expected serial (i + 1) t

def garbageLen : List Item → Nat
  | [] => 0
  | .g b :: t => b.length + garbageLen t
  | .m _ :: t => garbageLen t

/-- length of the garbage after the last message -/
def trailingGarbage (items : List Item) : Nat :=
  let rec go : List Item → Nat
    | .g b :: t => b.length + go t
    | _ => 0
  go items.reverse

structure ItObs where
  msgs : List Msg
  index : Nat
  processed : Nat
  skipped : Nat
deriving Repr

namespace Spec
/-- C01 for a stream in the property's range -/
def C01 (serial : Bool) (i0 : Nat) (items : List Item) (o : ItObs) : Bool :=
  let total := (render serial items).length
  let unconsumed := total - o.processed
  o.msgs == expected serial i0 items && o.index == i0 + o.msgs.length &&
  o.processed ≤ total && o.skipped + unconsumed == garbageLen items &&
  unconsumed < (if serial then 8 else 20) && unconsumed ≤ trailingGarbage items

def inRange (serial : Bool) (items : List Item) : Bool := allWf serial items && markerFree serial items

/-- C02 for one parsed message `m` and the bytes `w` the implementation wrote for it -/
def C02one (m : Msg) (w : Bytes) : Bool :=
  match parseStorage m.index w with
  | .ok (n, m') =>
    n == w.length && m'.ecu == m.ecu && m'.recvUs == m.recvUs && m'.tsDms == (if m.std.hasTs then m.tsDms else 0) &&
    m'.std.hasTs == m.std.hasTs && m'.std.mcnt == m.std.mcnt && m'.std.bigEndian == m.std.bigEndian &&
    m'.ext == m.ext && m'.payload == m.payload && toWrite m' == some w
  | .error _ => false

/-- the property's range for C02: the seconds of the reception time fit the 32 bits of the storage header -/
def C02inRange (m : Msg) : Bool := m.recvUs / 1000000 < 4294967296
end Spec
end Dp
