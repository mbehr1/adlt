import Adlt.Dlt.Parse
/-! `parseStorage` and `parseSerial` are one parser over two framings. `parseFramed` is that parser, split into whether it
    accepts (`refusal`: no index, no message) and what it then yields (`msgAt`), and reading the standard header by index
    instead of by list pattern. `parseStorage_eq` / `parseSerial_eq` say so; the facts about parsing are proved about
    `parseFramed`, with the framing a variable. -/
namespace Dp

/-- what the two framings differ in -/
structure Framing where
  pat : Bytes
  hdr : Nat                 -- bytes in front of the standard header
  short : PErr              -- the verdict when the input ends inside the announced message
  secs : Bytes → Nat        -- reception time and ECU id as read from those `hdr` bytes
  micros : Bytes → Nat
  ecu : Bytes → Bytes

def storageF : Framing :=
  ⟨storagePat, 16, .notEnough, fun sh => le32 ((sh.drop 4).take 4), fun sh => le32 ((sh.drop 8).take 4), fun sh => (sh.drop 12).take 4⟩

def serialF : Framing :=
  ⟨serialPat, 4, .invalid, fun _ => (2023 - 1970) * 365 * 24 * 60 * 60, fun _ => 0, fun _ => [0x44, 0x4c, 0x53, 0]⟩

def stdAt (k : Nat) (d : Bytes) : StdHdr :=
  { htyp := d.getD k 0, mcnt := d.getD (k + 1) 0, len := (d.getD (k + 2) 0).toNat * 256 + (d.getD (k + 3) 0).toNat }

/-- the corruption heuristic of both parsers: ≥ 4 bytes follow, they are no marker, and a marker
    occurs at some offset in `[5, toConsume)` -/
def heuristicFires (p : Bytes) (d : Bytes) (toConsume : Nat) : Bool :=
  decide (d.length - toConsume ≥ 4) && !isPat p (d.drop toConsume) && markerInside p d toConsume

/-- why the parser refuses `d`, if it does: the tests in the order the code makes them -/
def refusal (F : Framing) (d : Bytes) : Option PErr :=
  let h := stdAt F.hdr d
  if d.length < F.hdr + 4 then some .notEnough
  else if !isPat F.pat d then some .invalid
  else if h.len < h.size then some .invalid
  else if d.length - F.hdr < h.len then some F.short
  else if heuristicFires F.pat d (F.hdr + h.len) then some .invalid
  else none

def msgAt (F : Framing) (index : Nat) (d : Bytes) : Msg :=
  let h := stdAt F.hdr d
  fromHeaders index (F.secs (d.take F.hdr)) (F.micros (d.take F.hdr)) (F.ecu (d.take F.hdr)) h
    ((d.drop (F.hdr + 4)).take (h.size - 4)) ((d.drop (F.hdr + h.size)).take (h.len - h.size))

/-- the parser's answer, from why it refuses (if it does) and what it yields otherwise -/
def answer (ok : Nat × Msg) : Option PErr → Except PErr (Nat × Msg)
  | some e => .error e
  | none => .ok ok

def parseFramed (F : Framing) (index : Nat) (d : Bytes) : Except PErr (Nat × Msg) :=
  answer (F.hdr + (stdAt F.hdr d).len, msgAt F index d) (refusal F d)

theorem drop_eq_cons (d : Bytes) (k : Nat) (h : k < d.length) : d.drop k = d.getD k 0 :: d.drop (k + 1) := by
  rw [List.drop_eq_getElem_cons h, List.getD_eq_getElem?_getD, List.getElem?_eq_getElem h]; rfl

theorem drop_eq_cons4 (d : Bytes) (k : Nat) (h : k + 4 ≤ d.length) :
    d.drop k = d.getD k 0 :: d.getD (k + 1) 0 :: d.getD (k + 2) 0 :: d.getD (k + 3) 0 :: d.drop (k + 4) := by
  have h2 : k + 2 < d.length := Nat.lt_of_succ_lt h
  rw [drop_eq_cons d k (Nat.lt_of_succ_lt (Nat.lt_of_succ_lt h2)), drop_eq_cons d (k + 1) (Nat.lt_of_succ_lt h2),
    drop_eq_cons d (k + 2) h2, drop_eq_cons d (k + 3) h]

theorem take_drop_take (d : Bytes) (k n m : Nat) (h : k + n ≤ m) : ((d.take m).drop k).take n = (d.drop k).take n := by
  rw [List.drop_take, List.take_take, Nat.min_eq_left (Nat.le_sub_of_add_le' h)]

/-- the form the two parsers are written in -/
theorem parseFramed_ite (F : Framing) (i : Nat) (d : Bytes) :
    parseFramed F i d =
      if d.length < F.hdr + 4 then .error .notEnough
      else if !isPat F.pat d then .error .invalid
      else if (stdAt F.hdr d).len < (stdAt F.hdr d).size then .error .invalid
      else if d.length - F.hdr < (stdAt F.hdr d).len then .error F.short
      else if heuristicFires F.pat d (F.hdr + (stdAt F.hdr d).len) then .error .invalid
      else .ok (F.hdr + (stdAt F.hdr d).len, msgAt F i d) := by
  -- `answer _` of the chain of tests that `refusal` is, is the chain of its values
  unfold parseFramed refusal
  simp only [apply_ite (answer _)]
  rfl

theorem msgAt_storage (i : Nat) (d : Bytes) :
    msgAt storageF i d = fromHeaders i (le32 ((d.drop 4).take 4)) (le32 ((d.drop 8).take 4)) ((d.drop 12).take 4) (stdAt 16 d)
      ((d.drop 20).take ((stdAt 16 d).size - 4)) ((d.drop (16 + (stdAt 16 d).size)).take ((stdAt 16 d).len - (stdAt 16 d).size)) := by
  unfold msgAt
  dsimp only [storageF]
  rw [take_drop_take d 4 4 16 (by decide), take_drop_take d 8 4 16 (by decide), take_drop_take d 12 4 16 (by decide)]

/-! The two bridges. `by_cases` settles the first test (is the standard header there), and `drop_eq_cons4` shows the parser's
    list pattern the four bytes that `stdAt` reads by index. What is left on either side is a chain of four tests (marker,
    announced length against the header's size, against what is there, corruption heuristic) and an answer. The closing
    `apply (if_neg h).symm` leaves their comparison to definitional unfolding of the framing, `stdAt`, `heuristicFires` and the
    parser's `let`s: it succeeds because they are the same tests in the same order (`exact` would compare them twice). A test added
    to a parser is to be added at the same place to `refusal` and `parseFramed_ite`. -/

theorem parseStorage_eq (i : Nat) (d : Bytes) : parseStorage i d = parseFramed storageF i d := by
  rw [parseFramed_ite, msgAt_storage]
  unfold parseStorage
  by_cases h : d.length < 20
  · rw [if_pos h]; exact (if_pos h).symm
  · rw [if_neg h, drop_eq_cons4 d 16 (Nat.le_of_not_lt h)]
    apply (if_neg h).symm

theorem parseSerial_eq (i : Nat) (d : Bytes) : parseSerial i d = parseFramed serialF i d := by
  rw [parseFramed_ite]
  unfold parseSerial msgAt
  by_cases h : d.length < 8
  · rw [if_pos h]; exact (if_pos h).symm
  · rw [if_neg h, drop_eq_cons4 d 4 (Nat.le_of_not_lt h)]
    apply (if_neg h).symm

theorem refusal_short (F : Framing) (d : Bytes) (h : d.length < F.hdr + 4) : refusal F d = some .notEnough := if_pos h

theorem refusal_nopat (F : Framing) (d : Bytes) (hlen : F.hdr + 4 ≤ d.length) (hp : isPat F.pat d = false) :
    refusal F d = some .invalid := by
  unfold refusal
  rw [if_neg (Nat.not_lt.mpr hlen), if_pos (by rw [hp]; rfl)]

theorem four_le_size (H : StdHdr) : 4 ≤ H.size := by
  unfold StdHdr.size
  rw [Nat.add_assoc, Nat.add_assoc, Nat.add_assoc]
  exact Nat.le_add_right 4 _

theorem refusal_none (F : Framing) (d : Bytes) (h : refusal F d = none) :
    isPat F.pat d = true ∧ (stdAt F.hdr d).size ≤ (stdAt F.hdr d).len ∧
    F.hdr + (stdAt F.hdr d).len ≤ d.length ∧ heuristicFires F.pat d (F.hdr + (stdAt F.hdr d).len) = false := by
  revert h
  fun_cases refusal F d with
  | case1 | case2 | case3 | case4 | case5 => nofun
  | case6 H h1 h2 h3 h5 h6 =>
    exact fun _ => ⟨by simpa using h2, Nat.le_of_not_lt h3,
      Nat.add_le_of_le_sub' (Nat.le_trans (Nat.le_add_right _ 4) (Nat.le_of_not_lt h1)) (Nat.le_of_not_lt h5), by simpa using h6⟩

theorem refusal_invalid_len (F : Framing) (d : Bytes) (h : refusal F d = some .invalid) : F.hdr + 4 ≤ d.length :=
  Nat.le_of_not_lt fun hlt => by rw [refusal_short F d hlt] at h; cases h

theorem parseFramed_error (F : Framing) (i : Nat) (d : Bytes) (e : PErr) : parseFramed F i d = .error e ↔ refusal F d = some e := by
  unfold parseFramed; cases refusal F d <;> simp [answer]

theorem parseFramed_ok (F : Framing) (i : Nat) (d : Bytes) (n : Nat) (m : Msg) :
    parseFramed F i d = .ok (n, m) ↔ refusal F d = none ∧ n = F.hdr + (stdAt F.hdr d).len ∧ m = msgAt F i d := by
  unfold parseFramed; cases refusal F d <;> simp [answer, eq_comm]

theorem parseFramed_ok_le (F : Framing) (i : Nat) (d : Bytes) (n : Nat) (m : Msg) (h : parseFramed F i d = .ok (n, m)) :
    n ≤ d.length := by
  obtain ⟨h0, rfl, _⟩ := (parseFramed_ok F i d n m).mp h
  exact (refusal_none F d h0).2.2.1

theorem le_length_drop (d : Bytes) {k n : Nat} (h : k + n ≤ d.length) : n ≤ (d.drop k).length := by
  rw [List.length_drop]; exact Nat.le_sub_of_add_le' h

theorem slice_append (w rest : Bytes) (k n : Nat) (h : k + n ≤ w.length) : ((w ++ rest).drop k).take n = (w.drop k).take n := by
  rw [List.drop_append_of_le_length (Nat.le_trans (Nat.le_add_right k n) h),
    List.take_append_of_le_length (le_length_drop w h)]

/-- the standard header is read from a slice, as everything else is -/
theorem stdAt_slice (k : Nat) (d : Bytes) : stdAt k d = stdAt 0 ((d.drop k).take 4) := by
  simp only [stdAt, List.getD_eq_getElem?_getD, List.getElem?_take, List.getElem?_drop, Nat.zero_add, Nat.add_zero,
    Nat.reduceLT, if_true]

theorem stdAt_append (k : Nat) (w rest : Bytes) (h : k + 4 ≤ w.length) : stdAt k (w ++ rest) = stdAt k w := by
  rw [stdAt_slice, slice_append w rest k 4 h, ← stdAt_slice]

theorem isPat_append (p w rest : Bytes) (k : Nat) (h : k + 4 ≤ w.length) :
    isPat p ((w ++ rest).drop k) = isPat p (w.drop k) := by
  unfold isPat; rw [slice_append w rest k 4 h]

/-- `markerScan p l n` looks at the first `n + 3` bytes -/
theorem markerScan_append (p : Bytes) (n : Nat) (l rest : Bytes) (h : n ≤ l.length - 3) :
    markerScan p (l ++ rest) n = markerScan p l n := by
  fun_induction markerScan p l n with
  | case1 => exact markerScan.eq_1 ..
  | case2 n hn => exact absurd (Nat.le_zero.mp (Nat.zero_sub 3 ▸ h)) hn
  | case3 x t n ih =>
    have h3 : n + 4 ≤ t.length + 1 := Nat.add_lt_of_lt_sub h
    rw [List.cons_append, markerScan, ← List.cons_append, ih (Nat.le_sub_of_add_le (Nat.le_of_succ_le_succ h3))]
    exact congrArg (· || _) (isPat_append p (x :: t) rest 0 (Nat.le_of_add_left_le h3))

theorem markerScan_false (p : Bytes) (n : Nat) (l : Bytes) (h : ∀ i, i < n → isPat p (l.drop i) = false) :
    markerScan p l n = false := by
  fun_induction markerScan p l n with
  | case1 | case2 => rfl
  | case3 x t n ih =>
    rw [ih fun i hi => h (i + 1) (Nat.succ_lt_succ hi), Bool.or_false]
    exact h 0 (Nat.succ_pos n)

theorem heuristicFires_append (p w rest : Bytes) (n : Nat) (h : n + 4 ≤ w.length) :
    heuristicFires p (w ++ rest) n = heuristicFires p w n := by
  have hm : markerInside p (w ++ rest) n = markerInside p w n := by
    unfold markerInside
    rw [List.drop_append, markerScan_append p _ _ _ (by
      rw [List.length_drop, Nat.sub_right_comm]
      exact Nat.sub_le_sub_right (Nat.le_sub_of_add_le (Nat.le_of_succ_le h)) 5)]
  unfold heuristicFires
  -- four bytes follow on either side
  rw [isPat_append p w rest n h, hm, decide_eq_true (Nat.le_sub_of_add_le' h),
    decide_eq_true (Nat.le_sub_of_add_le' (Nat.le_trans h (List.sublist_append_left w rest).length_le))]

theorem byte_le (a : UInt8) : a.toNat ≤ 255 := Nat.le_of_lt_succ a.toNat_lt

theorem stdAt_len_le (k : Nat) (d : Bytes) : (stdAt k d).len ≤ 65535 :=
  Nat.add_le_add (Nat.mul_le_mul_right 256 (byte_le _)) (byte_le _)

/-- **window lemma**: on a window that holds the message its length field announces plus four more bytes, the parser
    answers as on the whole input -/
theorem refusal_window (F : Framing) (w rest : Bytes) (hl : F.hdr + (stdAt F.hdr w).len + 4 ≤ w.length) :
    refusal F (w ++ rest) = refusal F w := by
  have h4 : F.hdr + 4 ≤ w.length := Nat.le_trans (Nat.add_le_add_right (Nat.le_add_right _ _) 4) hl
  have hL := Nat.le_of_add_right_le hl
  have hp : isPat F.pat (w ++ rest) = isPat F.pat w := isPat_append F.pat w rest 0 (Nat.le_of_add_left_le h4)
  have hc := (List.sublist_append_left w rest).length_le
  unfold refusal
  dsimp only
  -- every test reads the same on both sides; the two that ask for the length are passed
  rw [stdAt_append _ w rest h4, hp, heuristicFires_append _ w rest _ hl,
    if_neg (Nat.not_lt.mpr (Nat.le_trans h4 hc)), if_neg (Nat.not_lt.mpr h4),
    if_neg (Nat.not_lt.mpr (Nat.le_sub_of_add_le' (Nat.le_trans hL hc))), if_neg (Nat.not_lt.mpr (Nat.le_sub_of_add_le' hL))]

/-- an input of `n` bytes that holds a message of `len` bytes behind `hdr` holds its parts: the four bytes of the standard
    header, the rest of a header of `size` bytes, the payload -/
theorem parts_fit {hdr size len n : Nat} (h4 : 4 ≤ size) (hsz : size ≤ len) (hl : hdr + len ≤ n) :
    hdr + 4 ≤ n ∧ hdr + 4 + (size - 4) ≤ n ∧ hdr + size + (len - size) ≤ n := by omega

theorem msgAt_window (F : Framing) (i : Nat) (w rest : Bytes) (hsz : (stdAt F.hdr w).size ≤ (stdAt F.hdr w).len)
    (hl : F.hdr + (stdAt F.hdr w).len ≤ w.length) : msgAt F i (w ++ rest) = msgAt F i w := by
  obtain ⟨p1, p2, p3⟩ := parts_fit (four_le_size _) hsz hl
  unfold msgAt
  dsimp only
  rw [stdAt_append _ w rest p1, slice_append w rest _ _ p2, slice_append w rest _ _ p3,
    List.take_append_of_le_length (Nat.le_trans (Nat.le_add_right _ _) hl)]

theorem parseFramed_window (F : Framing) (i : Nat) (w rest : Bytes) (hl : F.hdr + (stdAt F.hdr w).len + 4 ≤ w.length) :
    parseFramed F i (w ++ rest) = parseFramed F i w := by
  unfold parseFramed
  rw [refusal_window F w rest hl]
  cases h : refusal F w with
  | some e => simp only [answer]
  | none =>
    obtain ⟨_, hsz, hL, _⟩ := refusal_none F w h
    rw [msgAt_window F i w rest hsz hL, stdAt_append _ w rest (parts_fit (four_le_size _) hsz hL).1]

theorem parseFramed_window_max (F : Framing) (i : Nat) (w rest : Bytes) (h : F.hdr + 65535 + 4 ≤ w.length) :
    parseFramed F i (w ++ rest) = parseFramed F i w :=
  parseFramed_window F i w rest (Nat.le_trans (Nat.add_le_add_right (Nat.add_le_add_left (stdAt_len_le F.hdr w) _) 4) h)

end Dp
