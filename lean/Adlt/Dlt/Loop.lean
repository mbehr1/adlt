import Adlt.Dlt.Framed
/-! What the loop of `DltMessageIterator::next` computes, said once. An attempt is determined by the parser's answer
    (`attempt`), and both attempts of the loop are that of one parser over a framing (`tryF`, with `tryStorage_eq` /
    `trySerial_eq`); a pass of the loop is the storage attempt and, where that decides nothing, the serial one (`pass`);
    `iterAll` is a pass and what follows it (`iterAll_succ`). The files that reason about the iterator rewrite with these;
    `tryStorage`, `trySerial` and `iterAll` are opened only here. -/
namespace Dp

/-- framing `serial` is not excluded by a latch of the other framing -/
def ItSt.free (serial : Bool) (s : ItSt) : Prop := if serial then s.detStorage = false else s.detSerial = false

/-- a message of `n` bytes has been yielded in framing `serial`: that framing's latch is set, the other one kept. Written field
    by field, so that what it does to the counters holds by `rfl` for a variable `serial` -/
def ItSt.latch (serial : Bool) (n : Nat) (s : ItSt) : ItSt :=
  { s with index := s.index + 1, processed := s.processed + n, detStorage := !serial || s.detStorage,
           detSerial := serial || s.detSerial }

def ItSt.skip (n : Nat) (s : ItSt) : ItSt := { s with processed := s.processed + n, skipped := s.skipped + n }

theorem free_storage {serial : Bool} {s : ItSt} (hs : s.free serial) (hl : s.detStorage = true) : s.detSerial = false := by
  cases serial
  · exact hs
  · exact absurd ((show s.detStorage = false from hs).symm.trans hl) (by decide)

theorem latch_free (serial : Bool) (n : Nat) (s : ItSt) (h : s.free serial) : (s.latch serial n).free serial := by
  cases serial <;> exact h

theorem skip_skip (a b : Nat) (s : ItSt) : (s.skip a).skip b = s.skip (a + b) := by
  simp only [ItSt.skip, Nat.add_assoc]

/-- an attempt in framing `serial`, from the parser's answer. `judge`: invalid data and a short input are this framing's to
    judge (always for the serial attempt; for the storage attempt once storage framing is latched) -/
def attempt (serial judge : Bool) (s : ItSt) : Except PErr (Nat × Msg) → LoopRes
  | .ok (n, m) => .yield m n (s.latch serial n)
  | .error .invalid => if judge then .skip (s.skip 1) else .again s
  | .error .notEnough => if judge then .stop s else .again s

/-- an attempt in the framing `F`: what there is to say about either attempt of the loop is said of this -/
def tryF (F : Framing) (serial judge : Bool) (s : ItSt) (d : Bytes) : LoopRes :=
  attempt serial judge s (parseFramed F s.index d)

theorem tryStorage_eq (s : ItSt) (d : Bytes) : tryStorage s d = tryF storageF false s.detStorage s d := by
  unfold tryStorage tryF attempt
  rw [← parseStorage_eq]
  cases parseStorage s.index d <;> rfl

theorem trySerial_eq (s : ItSt) (d : Bytes) : trySerial s d = tryF serialF true true s d := by
  unfold trySerial tryF attempt
  rw [← parseSerial_eq]
  cases parseSerial s.index d <;> rfl

/-- the bytes an attempt has taken from the input -/
def LoopRes.consumed : LoopRes → Nat
  | .yield _ n _ => n
  | .skip _ => 1
  | _ => 0

/-- one pass of the loop, in the shape of the loop's body: the storage attempt unless serial framing is latched; the serial
    attempt if that decides nothing and storage framing is not latched -/
def pass (s : ItSt) (d : Bytes) : LoopRes :=
  match (if !s.detSerial then tryF storageF false s.detStorage s d else .again s) with
  | .again s' => if !s'.detStorage then tryF serialF true true s' d else .stop s'
  | r => r

theorem iterAll_succ (fuel : Nat) (s : ItSt) (d : Bytes) :
    iterAll (fuel + 1) s d =
      match pass s d with
      | .yield m n s' => (m :: (iterAll fuel s' (d.drop n)).1, (iterAll fuel s' (d.drop n)).2)
      | .skip s' => iterAll fuel s' (d.drop 1)
      | .stop s' => ([], s')
      | .again s' => ([], s') := by
  rw [iterAll]
  unfold pass
  rw [← tryStorage_eq]
  generalize (if !s.detSerial then tryStorage s d else LoopRes.again s) = r1
  cases r1 with
  | again s' =>
    dsimp only
    rw [← trySerial_eq]
    cases s'.detStorage
    · cases trySerial s' d <;> rfl
    · rfl
  | _ => rfl

end Dp
