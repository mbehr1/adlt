import Adlt.Dlt.Stream
/-! C04 (position): what the iterator recognises in a suffix of the stream does not depend on how many complete messages
    precede it - they only renumber the messages and advance the byte counter. -/
namespace Dp

def Msg.shift (k : Nat) (m : Msg) : Msg := { m with index := m.index + k }
def ItSt.shift (k p : Nat) (s : ItSt) : ItSt := { s with index := s.index + k, processed := s.processed + p }

def shiftLoop (k p : Nat) : LoopRes → LoopRes
  | .yield m n s => .yield (m.shift k) n (s.shift k p)
  | .skip s => .skip (s.shift k p)
  | .again s => .again (s.shift k p)
  | .stop s => .stop (s.shift k p)

/-- the counters are advanced in the other order -/
theorem latch_shift (serial : Bool) (n k p : Nat) (s : ItSt) : (s.shift k p).latch serial n = (s.latch serial n).shift k p := by
  simp only [ItSt.latch, ItSt.shift, Nat.add_right_comm _ k, Nat.add_right_comm _ p]

theorem skip_shift (n k p : Nat) (s : ItSt) : (s.shift k p).skip n = (s.skip n).shift k p := by
  simp only [ItSt.skip, ItSt.shift, Nat.add_right_comm _ p]

/-- an attempt commutes with the shift, whatever the framing: whether the parser accepts does not depend on the index, which
    it only copies into the message -/
theorem tryF_shift (F : Framing) (serial judge : Bool) (k p : Nat) (s : ItSt) (d : Bytes) :
    tryF F serial judge (s.shift k p) d = shiftLoop k p (tryF F serial judge s d) := by
  unfold tryF parseFramed
  cases refusal F d with
  | none =>
    -- accepted: both sides yield; the states differ by `latch_shift`
    show LoopRes.yield _ _ _ = LoopRes.yield _ _ _
    rw [latch_shift]
    rfl
  | some e =>
    cases e <;> cases judge
    · rfl
    · exact congrArg _ (skip_shift 1 k p s)
    · rfl
    · rfl

theorem pass_shift (k p : Nat) (s : ItSt) (d : Bytes) : pass (s.shift k p) d = shiftLoop k p (pass s d) := by
  unfold pass
  -- `.again (s.shift k p)` is `shiftLoop k p (.again s)`: the shift moves out of the `if`
  show (match (if !s.detSerial then tryF storageF false s.detStorage (s.shift k p) d else shiftLoop k p (.again s)) with
    | .again s' => _ | r => r) = _
  rw [tryF_shift, ← apply_ite (shiftLoop k p)]
  generalize (if !s.detSerial then tryF storageF false s.detStorage s d else LoopRes.again s) = r1
  cases r1 with
  | again s' =>
    dsimp only
    rw [apply_ite (shiftLoop k p), ← tryF_shift]
    rfl
  | _ => rfl

/-- **renumbering**: started with a larger index and byte counter, the iterator finds the same messages (renumbered), skips
    the same bytes and ends with the same latches -/
theorem iterAll_shift (k p : Nat) (fuel : Nat) : ∀ (s : ItSt) (d : Bytes),
    iterAll fuel (s.shift k p) d = ((iterAll fuel s d).1.map (Msg.shift k), (iterAll fuel s d).2.shift k p) := by
  induction fuel with
  | zero => intro s d; rfl
  | succ n ih =>
    intro s d
    rw [iterAll_succ, iterAll_succ, pass_shift]
    cases pass s d with
    | yield m c s' => simp only [shiftLoop]; rw [ih]; rfl
    | skip s' => simp only [shiftLoop]; rw [ih]
    | stop s' => rfl
    | again s' => rfl

def encAll : List RawMsg → Bytes
  | [] => []
  | r :: t => r.enc false ++ encAll t

def msgsOf : Nat → List RawMsg → List Msg
  | _, [] => []
  | i, r :: t => r.msg false i :: msgsOf (i + 1) t

/-- each message of the prefix is well-formed and is accepted where it stands (the corruption heuristic, which looks at
    the four bytes behind a message, does not reject it) -/
def PrefixOk : List RawMsg → Bytes → Prop
  | [], _ => True
  | r :: t, d => r.wf false = true ∧ heuristicFires storagePat (r.enc false ++ (encAll t ++ d)) (16 + r.len) = false ∧ PrefixOk t d

/-- **position independence**: behind complete messages the iterator continues on the suffix exactly as an iterator started on
    the suffix alone with storage framing latched and index and byte counter advanced. Storage framing is latched by the first
    message, if it was not before -/
theorem iter_prefix (rs : List RawMsg) : ∀ (fuel : Nat) (s : ItSt) (d : Bytes), s.detSerial = false → PrefixOk rs d →
    rs ≠ [] ∨ s.detStorage = true →
    iterAll (fuel + rs.length) s (encAll rs ++ d) =
      (msgsOf s.index rs ++ (iterAll fuel (({ s with detStorage := true } : ItSt).shift rs.length (encAll rs).length) d).1,
       (iterAll fuel (({ s with detStorage := true } : ItSt).shift rs.length (encAll rs).length) d).2) := by
  induction rs with
  | nil =>
    intro fuel ⟨i, p, k, sto, ser⟩ d _ _ h
    obtain rfl : sto = true := h.resolve_left (fun h => h rfl)
    rfl
  | cons r t ih =>
    intro fuel s d hs ⟨hw, hh, ht⟩ _
    have hl : (r.enc false).length = 16 + r.len := enc_length false r hw
    -- fuel `fuel + t.length + 1`, input `r.enc false ++ (encAll t ++ d)`
    rw [List.length_cons, ← Nat.add_assoc, encAll, List.append_assoc,
      step_msg false (fuel + t.length) s r (encAll t ++ d) hs hw (hl ▸ hh), hl,
      ih fuel (s.latch false (16 + r.len)) d hs ht (.inr rfl)]
    -- the state behind `r` and then `t` is the state behind `r :: t`
    have e : ({ s.latch false (16 + r.len) with detStorage := true } : ItSt).shift t.length (encAll t).length =
        ({ s with detStorage := true } : ItSt).shift (t.length + 1) (r.enc false ++ encAll t).length := by
      simp only [ItSt.shift, ItSt.latch, Bool.false_or, List.length_append, hl, Nat.add_assoc, Nat.add_comm 1]
    rw [e]
    rfl
end Dp
