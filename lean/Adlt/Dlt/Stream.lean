import Adlt.Dlt.StreamSerial
/-! C01, whole stream, either framing. From what a pass does (StreamSerial.lean): a stretch of offsets at which no marker
    begins is skipped while the input is long enough to be judged (`iter_noMarker`), a marker-free rest of the input ends the
    run (`iter_tail`), a message is yielded (`step_msg`); `iter_stream` is the induction over the items. -/
namespace Dp

def NoMarkerIn (d : Bytes) (k : Nat) : Prop := ∀ j, j < k → anyMarkerAt (d.drop j) = false

/-- "neither frame marker occurs anywhere except at the start of each message" (markers straddling an item boundary
    included: the test looks at the whole remaining stream) -/
def Clean (serial : Bool) : List Item → Prop
  | [] => True
  | .g b :: rest => NoMarkerIn (b ++ render serial rest) b.length ∧ Clean serial rest
  | .m r :: rest =>
    (∀ j, 1 ≤ j → j < (r.enc serial).length → anyMarkerAt ((r.enc serial ++ render serial rest).drop j) = false) ∧
    Clean serial rest

def hasMsg : List Item → Bool
  | [] => false
  | .g _ :: t => hasMsg t
  | .m _ :: _ => true

/-- garbage after the last message -/
def tailGarbage : List Item → Nat
  | [] => 0
  | .g b :: t => if hasMsg t then tailGarbage t else b.length + tailGarbage t
  | .m _ :: t => tailGarbage t

theorem render_cons (serial : Bool) (it : Item) (t : List Item) :
    render serial (it :: t) = it.bytes serial ++ render serial t := rfl

theorem step_msg (serial : Bool) (fuel : Nat) (s : ItSt) (r : RawMsg) (rest : Bytes) (hs : s.free serial) (hw : r.wf serial = true)
    (hh : heuristicFires (marker serial) (r.enc serial ++ rest) (r.enc serial).length = false) :
    iterAll (fuel + 1) s (r.enc serial ++ rest) =
      (r.msg serial s.index :: (iterAll fuel (s.latch serial (r.enc serial).length) rest).1,
       (iterAll fuel (s.latch serial (r.enc serial).length) rest).2) := by
  rw [iterAll_succ, pass_msg serial s r rest hs hw hh]
  show (_ :: (iterAll fuel _ ((r.enc serial ++ rest).drop (r.enc serial).length)).1, _) = _
  rw [List.drop_left]

/-- `k` offsets at which no marker begins are skipped one by one, provided the input is long enough to be judged at each -/
theorem iter_noMarker {serial : Bool} (k fuel : Nat) (s : ItSt) (d : Bytes) (hs : s.free serial) (hn : NoMarkerIn d k)
    (hfit : ∀ j, j < k → j + s.minLen ≤ d.length) : iterAll (k + fuel) s d = iterAll fuel (s.skip k) (d.drop k) := by
  induction k generalizing fuel with
  | zero => rw [Nat.zero_add]; rfl
  | succ k ih =>
    -- `k` offsets, then one more
    have hk := Nat.lt_succ_self k
    rw [Nat.add_assoc, Nat.add_comm 1,
      ih (fuel + 1) (fun j hj => hn j (Nat.lt_succ_of_lt hj)) (fun j hj => hfit j (Nat.lt_succ_of_lt hj)), iterAll_succ,
      pass_noMarker (s.skip k) _ hs (by rw [List.length_drop]; exact Nat.le_sub_of_add_le' (hfit k hk)) (hn k hk)]
    show iterAll fuel ((s.skip k).skip 1) ((d.drop k).drop 1) = _
    rw [skip_skip, List.drop_drop]

/-- marker-free bytes `d` at the end of the input: nothing is yielded; `k` bytes are skipped and the rest is too short to be
    judged -/
theorem iter_tail {serial : Bool} (d : Bytes) (fuel : Nat) (s : ItSt) (hs : s.free serial) (hf : d.length < fuel)
    (hn : NoMarkerIn d d.length) : ∃ k, k ≤ d.length ∧ d.length - k < s.minLen ∧ iterAll fuel s d = ([], s.skip k) := by
  -- the input is long enough to be judged at its first `d.length + 1 - s.minLen` offsets and at no later one
  have hk : d.length + 1 - s.minLen ≤ d.length :=
    Nat.sub_le_of_le_add (Nat.add_le_add_left (Nat.le_trans (by decide) (minLen_ge s)) _)
  have hshort : d.length - (d.length + 1 - s.minLen) < s.minLen :=
    Nat.sub_lt_left_of_lt_add hk (Nat.le_add_of_sub_le (Nat.le_refl _))
  obtain ⟨f, rfl⟩ : ∃ f, fuel = d.length + 1 - s.minLen + f + 1 := Nat.exists_eq_add_of_lt (Nat.lt_of_le_of_lt hk hf)
  refine ⟨_, hk, hshort, ?_⟩
  rw [Nat.add_assoc, iter_noMarker _ (f + 1) s d hs (fun j hj => hn j (Nat.lt_of_lt_of_le hj hk))
      (fun j hj => Nat.le_of_lt_succ (Nat.add_lt_of_lt_sub hj)), iterAll_succ,
    pass_short (s.skip _) _ hs (by rw [List.length_drop]; exact hshort)]

theorem noMarker_append (g X : Bytes) (k : Nat) (hg : NoMarkerIn (g ++ X) g.length) (hX : NoMarkerIn X k) :
    NoMarkerIn (g ++ X) (g.length + k) := by
  intro j hj
  rcases Nat.lt_or_ge j g.length with hjg | hjg
  · exact hg j hjg
  · rw [List.drop_append, List.drop_eq_nil_of_le hjg, List.nil_append]
    exact hX _ (Nat.sub_lt_left_of_lt_add hjg hj)

theorem clean_quiet (serial : Bool) (r : RawMsg) (R : Bytes)
    (hc : ∀ j, 1 ≤ j → j < (r.enc serial).length → anyMarkerAt ((r.enc serial ++ R).drop j) = false) :
    heuristicFires (marker serial) (r.enc serial ++ R) (r.enc serial).length = false := by
  have hms : markerInside (marker serial) (r.enc serial ++ R) (r.enc serial).length = false := by
    unfold markerInside
    refine markerScan_false _ _ _ fun i hi => ?_
    have := anyMarker_false _ (hc (5 + i) (Nat.le_add_right_of_le (by decide)) (Nat.add_lt_of_lt_sub' hi))
    rw [List.drop_drop]
    cases serial
    · exact this.1
    · exact this.2
  unfold heuristicFires
  rw [hms, Bool.and_false]

/-- the iterator over a clean stream, from any state in which the other framing is not latched. Whether a run of garbage is
    skipped depends on what follows it (would a minimal message still fit?), so garbage `g` that has been seen and not yet
    walked over is carried along in front of the stream: the statement is that of C01 for the items `.g g :: items`, spelled
    out. A message shows that `g` is skipped; the end of the stream leaves it to `iter_tail`. `sf` is the final state, `u` the
    unconsumed tail -/
theorem iter_stream (serial : Bool) (items : List Item) : ∀ (g : Bytes) (fuel : Nat) (s : ItSt), s.free serial →
    allWf serial items = true → Clean serial items → NoMarkerIn (g ++ render serial items) g.length →
    (g ++ render serial items).length < fuel →
    ∃ sf, iterAll fuel s (g ++ render serial items) = (expected serial s.index items, sf) ∧
      sf.index = s.index + (expected serial s.index items).length ∧
      ∃ u, u ≤ (if hasMsg items then 0 else g.length) + tailGarbage items ∧ u < hdrLen serial + 4 ∧
        sf.processed + u = s.processed + (g ++ render serial items).length ∧
        sf.skipped + u = s.skipped + (g.length + garbageLen items) := by
  induction items with
  | nil =>
    intro g fuel s hs _ _ hn hf
    rw [show render serial [] = [] from rfl, List.append_nil] at hn hf ⊢
    obtain ⟨k, hk, hshort, h⟩ := iter_tail g fuel s hs hf hn
    -- both counters have advanced by `k`; the other `g.length - k` bytes are left
    have hcnt : ∀ c : Nat, c + k + (g.length - k) = c + g.length := fun c => by rw [Nat.add_assoc, Nat.add_sub_cancel' hk]
    exact ⟨_, h, rfl, g.length - k, Nat.sub_le _ _, Nat.lt_of_lt_of_le hshort (minLen_le s hs), hcnt _, hcnt _⟩
  | cons it t ih =>
    intro g fuel s hs hw hc hn hf
    cases it with
    | g b =>
      -- `b` joins the pending garbage
      obtain ⟨hcb, hct⟩ := hc
      have e : g ++ render serial (.g b :: t) = (g ++ b) ++ render serial t := (List.append_assoc g b _).symm
      have hn' : NoMarkerIn ((g ++ b) ++ render serial t) (g ++ b).length := by
        rw [List.append_assoc, List.length_append]
        exact noMarker_append g _ b.length hn hcb
      rw [e] at hf ⊢
      obtain ⟨sf, hrun, hidx, u, hutail, hushort, hproc, hskip⟩ := ih (g ++ b) fuel s hs hw hct hn' hf
      rw [List.length_append] at hutail hskip
      refine ⟨sf, hrun, hidx, u, ?_, hushort, hproc, hskip.trans (congrArg _ (Nat.add_assoc _ _ _))⟩
      show u ≤ (if hasMsg t then 0 else g.length) + (if hasMsg t then tailGarbage t else b.length + tailGarbage t)
      cases hm : hasMsg t <;> rw [hm] at hutail
      · exact Nat.le_trans hutail (Nat.le_of_eq (Nat.add_assoc _ _ _))
      · exact hutail
    | m r =>
      obtain ⟨hcm, hct⟩ := hc
      obtain ⟨hwr, hw'⟩ := Bool.and_eq_true_iff.mp hw
      have hel : hdrLen serial + 4 ≤ (r.enc serial).length := by
        rw [enc_length serial r hwr, RawMsg.len, Nat.add_assoc 4]; exact Nat.add_le_add_left (Nat.le_add_right 4 _) _
      have hmin := Nat.le_trans (minLen_le s hs) hel
      have e : render serial (.m r :: t) = r.enc serial ++ render serial t := render_cons serial _ t
      rw [e] at hn hf ⊢
      rw [List.length_append, List.length_append] at hf ⊢
      obtain ⟨f, rfl⟩ : ∃ f, fuel = g.length + f + 1 := Nat.exists_eq_add_of_lt (Nat.lt_of_le_of_lt (Nat.le_add_right _ _) hf)
      rw [Nat.add_assoc] at hf ⊢
      -- the message is not empty, so the fuel left exceeds what is left of the stream
      have hfuel : (render serial t).length < f :=
        Nat.lt_of_lt_of_le (Nat.lt_add_of_pos_left (Nat.lt_of_lt_of_le (Nat.succ_pos _) hel))
          (Nat.le_of_lt_succ (Nat.lt_of_add_lt_add_left hf))
      -- a message follows, so the input is long enough to be judged at every offset of `g`: it is skipped
      rw [iter_noMarker g.length (f + 1) s _ hs hn (fun j hj => by
          rw [List.length_append, List.length_append]
          exact Nat.add_le_add (Nat.le_of_lt hj) (Nat.le_trans hmin (Nat.le_add_right _ _))), List.drop_left,
        step_msg serial f (s.skip g.length) r _ hs hwr (clean_quiet serial r _ hcm)]
      obtain ⟨sf, hrun, hidx, u, hutail, hushort, hproc, hskip⟩ :=
        ih [] f ((s.skip g.length).latch serial (r.enc serial).length) (latch_free serial _ _ hs) hw' hct
          (fun _ hj => nomatch hj) hfuel
      rw [List.nil_append] at hrun hproc
      -- the counters after `skip` and `latch`: one message more, `g` and the message processed, `g` skipped
      simp only [ItSt.latch, ItSt.skip, List.length_nil, ite_self, Nat.zero_add, Nat.add_assoc] at hidx hutail hproc hskip
      exact ⟨sf, by rw [hrun]; rfl, hidx.trans (by rw [Nat.add_comm 1]; rfl), u,
        Nat.le_trans hutail (Nat.le_of_eq (Nat.zero_add _).symm), hushort, hproc, hskip⟩

end Dp
