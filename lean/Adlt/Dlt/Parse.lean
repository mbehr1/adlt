/-! Byte-level model of `parse_dlt_with_storage_header`, `parse_dlt_with_serial_header`, `DltMessage::from_headers`
    (src/dlt/mod.rs) and `DltMessageIterator::next` (src/utils/dltmessageiterator.rs). -/
namespace Dp

abbrev Bytes := List UInt8

def storagePat : Bytes := [0x44, 0x4c, 0x54, 0x01]
def serialPat  : Bytes := [0x44, 0x4c, 0x53, 0x01]

def isPat (p : Bytes) (d : Bytes) : Bool := d.take 4 == p

structure StdHdr where
  htyp : UInt8
  mcnt : UInt8
  len : Nat
deriving Repr, DecidableEq

def StdHdr.hasExt (h : StdHdr) : Bool := h.htyp &&& 1 != 0
def StdHdr.bigEndian (h : StdHdr) : Bool := h.htyp &&& 2 != 0
def StdHdr.hasEcu (h : StdHdr) : Bool := h.htyp &&& 4 != 0
def StdHdr.hasSid (h : StdHdr) : Bool := h.htyp &&& 8 != 0
def StdHdr.hasTs (h : StdHdr) : Bool := h.htyp &&& 16 != 0

def StdHdr.size (h : StdHdr) : Nat :=
  4 + (if h.hasEcu then 4 else 0) + (if h.hasSid then 4 else 0) + (if h.hasTs then 4 else 0)
    + (if h.hasExt then 10 else 0)

def be32 (b : Bytes) : Nat := match b with
  | [a, b, c, d] => ((a.toNat * 256 + b.toNat) * 256 + c.toNat) * 256 + d.toNat
  | _ => 0
def le32 (b : Bytes) : Nat := be32 b.reverse

structure Msg where
  index : Nat
  recvUs : Nat
  ecu : Bytes
  tsDms : Nat
  std : StdHdr
  ext : Option Bytes      -- 10 raw bytes
  payload : Bytes
deriving Repr, DecidableEq

inductive PErr where | invalid | notEnough
deriving Repr, DecidableEq

def fromHeaders (index secs micros : Nat) (shEcu : Bytes) (h : StdHdr) (add : Bytes) (payload : Bytes) : Msg :=
  let ecu := if h.hasEcu then add.take 4 else shEcu
  let off := (if h.hasEcu then 4 else 0) + (if h.hasSid then 4 else 0)
  let ts := if h.hasTs then be32 ((add.drop off).take 4) else 0
  let ext := if h.hasExt then some (add.drop (add.length - 10)) else none
  { index, recvUs := secs * 1000000 + micros, ecu, tsDms := ts, std := h, ext, payload }

/-- is there a marker at some i in [5, toConsume) of data (linear scan, like the Rust loop) -/
def markerScan (p : Bytes) : Bytes → Nat → Bool
  | _, 0 => false
  | [], _ => false
  | x :: t, n + 1 => isPat p (x :: t) || markerScan p t n

def markerInside (p : Bytes) (d : Bytes) (toConsume : Nat) : Bool :=
  markerScan p (d.drop 5) (toConsume - 5)

def parseStorage (index : Nat) (d : Bytes) : Except PErr (Nat × Msg) :=
  if d.length < 20 then .error .notEnough else
  if !isPat storagePat d then .error .invalid else
  let rem := d.length - 16
  match d.drop 16 with
  | htyp :: mcnt :: l1 :: l2 :: _ =>
    let h : StdHdr := { htyp, mcnt, len := l1.toNat * 256 + l2.toNat }
    if h.len < h.size then .error .invalid else
    if rem < h.len then .error .notEnough else
    let toConsume := 16 + h.len
    let remaining := d.length - toConsume
    if remaining ≥ 4 && !isPat storagePat (d.drop toConsume) && markerInside storagePat d toConsume then .error .invalid else
    let payload := (d.drop (16 + h.size)).take (h.len - h.size)
    let add := (d.drop 20).take (h.size - 4)
    .ok (toConsume, fromHeaders index (le32 ((d.drop 4).take 4)) (le32 ((d.drop 8).take 4)) ((d.drop 12).take 4) h add payload)
  | _ => .error .notEnough

def parseSerial (index : Nat) (d : Bytes) : Except PErr (Nat × Msg) :=
  if d.length < 8 then .error .notEnough else
  if !isPat serialPat d then .error .invalid else
  let rem := d.length - 4
  match d.drop 4 with
  | htyp :: mcnt :: l1 :: l2 :: _ =>
    let h : StdHdr := { htyp, mcnt, len := l1.toNat * 256 + l2.toNat }
    if h.len < h.size then .error .invalid else
    if rem < h.len then .error .invalid else
    let toConsume := 4 + h.len
    let remaining := d.length - toConsume
    if remaining ≥ 4 && !isPat serialPat (d.drop toConsume) && markerInside serialPat d toConsume then .error .invalid else
    let payload := (d.drop (4 + h.size)).take (h.len - h.size)
    let add := (d.drop 8).take (h.size - 4)
    .ok (toConsume, fromHeaders index ((2023 - 1970) * 365 * 24 * 60 * 60) 0 [0x44, 0x4c, 0x53, 0] h add payload)
  | _ => .error .notEnough

/-! ### compiled-code replacements (`@[csimp]`, proved equal): parsing without measuring the whole remaining input -/

def hasLen : Bytes → Nat → Bool
  | _, 0 => true
  | [], _ + 1 => false
  | _ :: t, n + 1 => hasLen t n

/-- `hasLen` is the length test without computing the length; with this the fast parsers (below) rewrite to the plain ones -/
theorem hasLen_eq (d : Bytes) (n : Nat) : hasLen d n = decide (n ≤ d.length) := by
  induction d generalizing n with
  | nil => cases n <;> simp [hasLen]
  | cons x t ih => cases n <;> simp [hasLen, ih]

def parseStorageFast (index : Nat) (d : Bytes) : Except PErr (Nat × Msg) :=
  if !hasLen d 20 then .error .notEnough else
  if !isPat storagePat d then .error .invalid else
  match d.drop 16 with
  | htyp :: mcnt :: l1 :: l2 :: _ =>
    let h : StdHdr := { htyp, mcnt, len := l1.toNat * 256 + l2.toNat }
    if h.len < h.size then .error .invalid else
    if !hasLen (d.drop 16) h.len then .error .notEnough else
    let toConsume := 16 + h.len
    if hasLen (d.drop toConsume) 4 && !isPat storagePat (d.drop toConsume) && markerInside storagePat d toConsume then .error .invalid else
    let payload := (d.drop (16 + h.size)).take (h.len - h.size)
    let add := (d.drop 20).take (h.size - 4)
    .ok (toConsume, fromHeaders index (le32 ((d.drop 4).take 4)) (le32 ((d.drop 8).take 4)) ((d.drop 12).take 4) h add payload)
  | _ => .error .notEnough

@[csimp] theorem parseStorage_eq_fast : @parseStorage = @parseStorageFast := by
  funext index d
  unfold parseStorage parseStorageFast
  simp only [hasLen_eq, List.length_drop, Bool.not_eq_true', decide_eq_false_iff_not, Nat.not_le]

def parseSerialFast (index : Nat) (d : Bytes) : Except PErr (Nat × Msg) :=
  if !hasLen d 8 then .error .notEnough else
  if !isPat serialPat d then .error .invalid else
  match d.drop 4 with
  | htyp :: mcnt :: l1 :: l2 :: _ =>
    let h : StdHdr := { htyp, mcnt, len := l1.toNat * 256 + l2.toNat }
    if h.len < h.size then .error .invalid else
    if !hasLen (d.drop 4) h.len then .error .invalid else
    let toConsume := 4 + h.len
    if hasLen (d.drop toConsume) 4 && !isPat serialPat (d.drop toConsume) && markerInside serialPat d toConsume then .error .invalid else
    let payload := (d.drop (4 + h.size)).take (h.len - h.size)
    let add := (d.drop 8).take (h.size - 4)
    .ok (toConsume, fromHeaders index ((2023 - 1970) * 365 * 24 * 60 * 60) 0 [0x44, 0x4c, 0x53, 0] h add payload)
  | _ => .error .notEnough

@[csimp] theorem parseSerial_eq_fast : @parseSerial = @parseSerialFast := by
  funext index d
  unfold parseSerial parseSerialFast
  simp only [hasLen_eq, List.length_drop, Bool.not_eq_true', decide_eq_false_iff_not, Nat.not_le]

structure ItSt where
  index : Nat
  processed : Nat := 0
  skipped : Nat := 0
  detStorage : Bool := false
  detSerial : Bool := false
deriving Repr

/-- the outcome of one attempt in the `loop` body of `DltMessageIterator::next`; `stop` = break (the iterator returns None) -/
inductive LoopRes where
  | yield (m : Msg) (consumed : Nat) (s : ItSt)
  | skip (s : ItSt)         -- consumed exactly one byte
  | again (s : ItSt)        -- nothing consumed, loop again (cannot happen twice in a row)
  | stop (s : ItSt)

def tryStorage (s : ItSt) (d : Bytes) : LoopRes :=
  match parseStorage s.index d with
  | .ok (n, m) => .yield m n { s with index := s.index + 1, processed := s.processed + n, detStorage := true }
  | .error .invalid => if s.detStorage then .skip { s with processed := s.processed + 1, skipped := s.skipped + 1 } else .again s
  | .error .notEnough => if s.detStorage then .stop s else .again s   -- a (shorter) serial message might still fit

def trySerial (s : ItSt) (d : Bytes) : LoopRes :=
  match parseSerial s.index d with
  | .ok (n, m) => .yield m n { s with index := s.index + 1, processed := s.processed + n, detSerial := true }
  | .error .invalid => .skip { s with processed := s.processed + 1, skipped := s.skipped + 1 }
  | .error .notEnough => .stop s

/-- all messages of the stream. The fuel only keeps the recursion structural: the stream theorems of C01 assume `d.length < fuel`, the
    drivers pass `d.length + 2` -/
def iterAll : Nat → ItSt → Bytes → List Msg × ItSt
  | 0, s, _ => ([], s)
  | fuel + 1, s, d =>
    -- storage attempt
    let r1 : LoopRes := if !s.detSerial then tryStorage s d else .again s
    match r1 with
    | .yield m n s' => let (ms, sf) := iterAll fuel s' (d.drop n); (m :: ms, sf)
    | .stop s' => ([], s')
    | .skip s' => iterAll fuel s' (d.drop 1)       -- storage latched: loop again (serial part skipped)
    | .again s' =>
      if !s'.detStorage then
        match trySerial s' d with
        | .yield m n s'' => let (ms, sf) := iterAll fuel s'' (d.drop n); (m :: ms, sf)
        | .stop s'' => ([], s'')
        | .skip s'' => iterAll fuel s'' (d.drop 1)
        | .again s'' => ([], s'')
      else ([], s')   -- both latches set: no step sets both, so not reachable from a state with at most one
end Dp
