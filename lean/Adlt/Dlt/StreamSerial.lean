import Adlt.Dlt.Enc
import Adlt.Dlt.Loop
/-! C01: what one pass of the loop does on the three kinds of input the stream theorem of Stream.lean meets - an input too short
    to judge, an offset at which no marker begins, the start of an encoded message. A serial attempt is only made behind a
    storage attempt; while storage framing is not latched that attempt decides nothing unless a storage message stands there,
    so the pass is the serial one (`pass_serial`). Hence the framings differ, away from a message, in one number (`minLen`). -/
namespace Dp

theorem anyMarker_false (d : Bytes) (h : anyMarkerAt d = false) : isPat storagePat d = false ∧ isPat serialPat d = false := by
  simpa [anyMarkerAt] using h

/-- while storage framing is not latched the storage attempt decides nothing unless a minimal storage message fits and the
    bytes start with the storage marker: the pass is the serial attempt -/
theorem pass_serial (s : ItSt) (d : Bytes) (hs : s.detStorage = false) (hp : 20 ≤ d.length → isPat storagePat d = false) :
    pass s d = tryF serialF true true s d := by
  have ha : tryF storageF false false s d = .again s := by
    rw [tryF, ← parseStorage_eq]
    by_cases h : 20 ≤ d.length
    · rw [parseStorage_garbage s.index d h (hp h)]; rfl
    · rw [parseStorage_short s.index d (Nat.lt_of_not_le h)]; rfl
  simp only [pass, hs, ha, Bool.not_false, if_true, ite_self]

/-- the shortest input on which a pass still judges: a minimal serial message, also for storage framing until it is latched
    (it is the serial attempt that judges then); a minimal storage message afterwards -/
def ItSt.minLen (s : ItSt) : Nat := if s.detStorage then 20 else 8

theorem minLen_ge (s : ItSt) : 8 ≤ s.minLen := by
  fun_cases ItSt.minLen s <;> decide

theorem minLen_le {serial : Bool} (s : ItSt) (hs : s.free serial) : s.minLen ≤ hdrLen serial + 4 := by
  unfold ItSt.minLen
  cases serial
  · split <;> decide
  · rw [show s.detStorage = false from hs]; decide

theorem pass_short {serial : Bool} (s : ItSt) (d : Bytes) (hs : s.free serial) (hlen : d.length < s.minLen) : pass s d = .stop s := by
  revert hlen
  fun_cases ItSt.minLen s with
  | case1 hl =>
    intro hlen
    unfold pass tryF
    rw [free_storage hs hl, hl, ← parseStorage_eq, parseStorage_short s.index d hlen]; rfl
  | case2 hl =>
    intro hlen
    rw [pass_serial s d (Bool.eq_false_iff.mpr hl) (fun h => absurd (Nat.lt_of_le_of_lt h hlen) (by decide)), tryF, ← parseSerial_eq,
      parseSerial_short s.index d hlen]; rfl

theorem pass_noMarker {serial : Bool} (s : ItSt) (d : Bytes) (hs : s.free serial) (hlen : s.minLen ≤ d.length)
    (hm : anyMarkerAt d = false) : pass s d = .skip (s.skip 1) := by
  obtain ⟨h1, h2⟩ := anyMarker_false d hm
  revert hlen
  fun_cases ItSt.minLen s with
  | case1 hl =>
    intro hlen
    unfold pass tryF
    rw [free_storage hs hl, hl, ← parseStorage_eq, parseStorage_garbage s.index d hlen h1]; rfl
  | case2 hl =>
    intro hlen
    rw [pass_serial s d (Bool.eq_false_iff.mpr hl) (fun _ => h1), tryF, ← parseSerial_eq, parseSerial_garbage s.index d hlen h2]; rfl

theorem pass_msg (serial : Bool) (s : ItSt) (r : RawMsg) (rest : Bytes) (hs : s.free serial) (hw : r.wf serial = true)
    (hh : heuristicFires (marker serial) (r.enc serial ++ rest) (r.enc serial).length = false) :
    pass s (r.enc serial ++ rest) = .yield (r.msg serial s.index) (r.enc serial).length (s.latch serial (r.enc serial).length) := by
  cases serial
  · unfold pass tryF
    rw [show s.detSerial = false from hs, ← parseStorage_eq, parseStorage_enc s.index r hw rest hh]; rfl
  · -- an encoded serial message starts with `DLS\x01`, which is not the storage marker
    have hp : isPat storagePat (r.enc true ++ rest) = false := by rfl  -- the tactic compares once, the term twice
    rw [pass_serial s _ hs (fun _ => hp), tryF, ← parseSerial_eq, parseSerial_enc s.index r hw rest hh]; rfl

end Dp
