import Adlt.Lc.Ops
import Adlt.Lc.Spec
/-! C19 (lifecycle part): the lifecycle detector commutes with every injective renaming of the ECU ids. Since the
    anonymiser maps ECU ids injectively (C19_anon_stream_ecu) and leaves all times untouched, the lifecycles detected on
    an anonymised trace are the lifecycles of the original with renamed ECUs: same ids, boundaries and message counts. -/
namespace Lcm

variable (f : Nat → Nat)

def Msg.rn (m : Msg) : Msg := { m with ecu := f m.ecu }
def Lc.rn (l : Lc) : Lc := { l with ecu := f l.ecu }
def OutMsg.rn (o : OutMsg) : OutMsg := { o with m := o.m.rn f }
def rnE (p : Nat × List Lc) : Nat × List Lc := (f p.1, p.2.map (Lc.rn f))
def rnP (p : Nat × Lc) : Nat × Lc := (p.1, p.2.rn f)

def St.rn (s : St) : St :=
  { s with ecuMap := s.ecuMap.map (rnE f), bufMsgs := s.bufMsgs.map (Msg.rn f), pending := s.pending.map (rnP f),
           published := s.published.map (rnP f), out := s.out.map (OutMsg.rn f) }

/-! per lifecycle the ECU is only copied: once `l` and `m` are taken apart both sides compute to the same term -/

@[simp] theorem Msg.rn_tsUs (m : Msg) : (m.rn f).tsUs = m.tsUs := rfl
@[simp] theorem Lc.rn_endTime (l : Lc) : (l.rn f).endTime = l.endTime := rfl
@[simp] theorem Lc.rn_slight (l : Lc) (x : Nat) : (l.rn f).slightlyOverlapping x = l.slightlyOverlapping x := rfl

theorem new_rn (id : Nat) (m : Msg) : Lc.new id (m.rn f) = Prod.map (Lc.rn f) (Msg.rn f) (Lc.new id m) := rfl

theorem classify_rn (l : Lc) (m : Msg) : (l.rn f).classify (m.rn f) = l.classify m := by
  cases l; cases m; rfl

theorem absorb_rn (l : Lc) (m : Msg) : (l.rn f).absorb (m.rn f) = (l.absorb m).rn f := by
  cases l; cases m; rfl

theorem update_rn (l : Lc) (id : Nat) (m : Msg) :
    (l.rn f).update id (m.rn f) = Prod.map (Lc.rn f) (Prod.map (Msg.rn f) (Option.map (Lc.rn f))) (l.update id m) := by
  unfold Lc.update
  rw [classify_rn]
  cases l.classify m with
  | fresh r => cases r <;> rfl
  | belongs => exact congrArg (·, ({ m with lc := l.id } : Msg).rn f, none) (absorb_rn f l m)
  | _ => rfl

theorem merge_rn (l o : Lc) : (l.rn f).merge (o.rn f) = (l.merge o).rn f := by
  rw [merge_eq, merge_eq]; rfl

theorem foldl_rn {σ σ' β β' : Type} (r : σ → σ') (g : β → β') (st : σ → β → σ) (st' : σ' → β' → σ')
    (H : ∀ s b, st' (r s) (g b) = r (st s b)) (l : List β) (s : σ) : (l.map g).foldl st' (r s) = r (l.foldl st s) := by
  rw [List.foldl_map]; exact List.foldl_hom r H

@[simp] theorem rn_nextId (s : St) : (s.rn f).nextId = s.nextId := rfl
@[simp] theorem rn_bufLcs (s : St) : (s.rn f).bufLcs = s.bufLcs := rfl
@[simp] theorem rn_toRefresh (s : St) : (s.rn f).toRefresh = s.toRefresh := rfl
@[simp] theorem rn_nextCheck (s : St) : (s.rn f).nextCheck = s.nextCheck := rfl
@[simp] theorem rn_panicked (s : St) : (s.rn f).panicked = s.panicked := rfl
@[simp] theorem rn_bufMsgs (s : St) : (s.rn f).bufMsgs = s.bufMsgs.map (Msg.rn f) := rfl
@[simp] theorem rn_ecuMap (s : St) : (s.rn f).ecuMap = s.ecuMap.map (rnE f) := rfl
@[simp] theorem rn_published (s : St) : (s.rn f).published = s.published.map (rnP f) := rfl
@[simp] theorem rn_pending (s : St) : (s.rn f).pending = s.pending.map (rnP f) := rfl
@[simp] theorem rn_out (s : St) : (s.rn f).out = s.out.map (OutMsg.rn f) := rfl

/-! One lemma per function of the model, bottom-up. Most proofs end in `rfl` after rewriting with the lemmas of the functions
    called: that `rfl` checks that both sides are the same `St`, field by field (every field of `s.rn f` unfolds to the renamed
    field of `s`). After a change of `St` or of a model function a failure there means a field that no longer matches. -/

theorem mark_rn (s : St) (i : Nat) : (s.rn f).mark i = (s.mark i).rn f := by
  unfold St.mark; rw [apply_ite (St.rn f)]; rfl

theorem publish_rn (s : St) (l : Lc) : (s.rn f).publish (l.rn f) = (s.publish l).rn f := by
  simp [St.publish, St.rn, rnP, Lc.rn]

theorem refresh_rn (s : St) : (s.rn f).refresh = s.refresh.rn f := by
  have h := foldl_rn (List.map (rnP f)) (rnP f) (fun acc (kv : Nat × Lc) => assocSet kv.1 kv.2 acc) (fun acc (kv : Nat × Lc) => assocSet kv.1 kv.2 acc)
    (fun acc kv => assocSet_map (g := id) (fun _ _ e => e) (Lc.rn f) kv.1 kv.2 acc) s.pending s.published
  exact congrArg (fun p => ({ s.rn f with published := p, pending := [] } : St)) h

theorem relabel_rn (a b : Nat) (ms : List Msg) : relabel a b (ms.map (Msg.rn f)) = (relabel a b ms).map (Msg.rn f) := by
  unfold relabel
  rw [List.map_map, List.map_map]
  exact List.map_congr_left fun m _ => (apply_ite (Msg.rn f) (m.lc == a) { m with lc := b } m).symm

theorem unpublishIfConfirmed_rn (s : St) (id : Nat) : (s.rn f).unpublishIfConfirmed id = (s.unpublishIfConfirmed id).rn f := by
  unfold St.unpublishIfConfirmed
  rw [apply_ite (St.rn f), refresh_rn]
  exact ite_congr rfl (fun _ => rfl) fun _ => congrArg (fun p => ({ s.refresh.rn f with published := p } : St))
    (assocErase_map (g := fun x => x) (fun _ _ e => e) (Lc.rn f) id s.refresh.published)

/-- the shape of `confirm` and `publishWhere`: every lifecycle of every ECU, newest first -/
theorem foldl_lcs_rn (st st' : St → Lc → St) (H : ∀ s lc, st' (s.rn f) (lc.rn f) = (st s lc).rn f) (s : St) :
    (s.rn f).ecuMap.foldl (fun s (p : Nat × List Lc) => p.2.reverse.foldl st' s) (s.rn f) =
    (s.ecuMap.foldl (fun s (p : Nat × List Lc) => p.2.reverse.foldl st s) s).rn f :=
  foldl_rn (St.rn f) (rnE f) _ _ (fun s p => by
    rw [show (rnE f p).2.reverse = p.2.reverse.map (Lc.rn f) from List.map_reverse.symm]
    exact foldl_rn _ _ _ _ H _ _) _ _

theorem publishWhere_rn (P : St → Lc → Bool) (hP : ∀ s l, P (s.rn f) (l.rn f) = P s l) (s : St) :
    (s.rn f).publishWhere P = (s.publishWhere P).rn f :=
  foldl_lcs_rn f (St.publishIf P) (St.publishIf P) (fun s l => by
    unfold St.publishIf; rw [hP, apply_ite (St.rn f), publish_rn]) s

section
variable {f}
variable (hf : ∀ a b, f a = f b → a = b)
include hf

theorem outOf_rn (pub : List (Nat × Lc)) (m : Msg) : outOf (pub.map (rnP f)) (m.rn f) = (outOf pub m).rn f := by
  have e : assocGet m.lc (pub.map (rnP f)) = (assocGet m.lc pub).map (Lc.rn f) := assocGet_map (g := id) (fun _ _ e => e) _ _ pub
  unfold outOf
  rw [show (m.rn f).lc = m.lc from rfl, e]
  cases assocGet m.lc pub with
  | none => rfl
  | some l => exact congrArg (OutMsg.mk (m.rn f)) (beq_inj hf l.ecu m.ecu)

theorem emit_rn (s : St) (m : Msg) : (s.rn f).emit (m.rn f) = (s.emit m).rn f := by
  rw [emit_eq, emit_eq, rn_published, outOf_rn hf]
  rfl

theorem flushAll_rn (s : St) : (s.rn f).flushAll = s.flushAll.rn f := by
  have go : ∀ (l : List Msg) (s : St) (last : Nat),
      St.flushAll.go (s.rn f) last (l.map (Msg.rn f)) = (St.flushAll.go s last l).rn f := by
    intro l
    induction l with
    | nil => intro s last; rfl
    | cons m t ih =>
      intro s last
      simp only [List.map_cons, St.flushAll.go, apply_ite (St.rn f), ← ih, ← emit_rn hf, ← mark_rn]
      rfl
  exact go s.bufMsgs s 0

theorem release_rn (s : St) (id : Nat) : (s.rn f).release id = (s.release id).rn f := by
  have go : ∀ (l : List Msg) (s : St) (prune : Nat),
      St.release.go (s.rn f) prune (l.map (Msg.rn f)) = (St.release.go s prune l).rn f := by
    intro l
    induction l with
    | nil => intro s prune; rfl
    | cons m t ih =>
      intro s prune
      simp only [List.map_cons, St.release.go, apply_ite (St.rn f), ← ih, ← emit_rn hf, ← mark_rn]
      rfl
  exact go s.bufMsgs s id

theorem confirmLc_rn (s : St) (m : Msg) (x : Nat) (lc : Lc) :
    (s.rn f).confirmLc (m.rn f) x (lc.rn f) = (s.confirmLc m x lc).rn f := by
  simp only [St.confirmLc, apply_ite (St.rn f), ← release_rn hf, ← refresh_rn, ← publish_rn, ← beq_inj hf lc.ecu m.ecu]
  rfl

theorem confirm_rn (s : St) (m : Msg) : (s.rn f).confirm (m.rn f) = (s.confirm m).rn f := by
  unfold St.confirm
  rw [apply_ite (St.rn f)]
  refine ite_congr rfl (fun _ => ?_) (fun _ => rfl)
  by_cases h : m.recv > m.tsUs + maxDelay
  · rw [if_pos h, if_pos (show (m.rn f).recv > (m.rn f).tsUs + maxDelay from h)]
    exact congrArg (fun x : St => ({ x with nextCheck := m.recv + usPerSec } : St)) (foldl_lcs_rn f _ _ (confirmLc_rn hf · m _) s)
  · rw [if_neg h, if_neg (show ¬ (m.rn f).recv > (m.rn f).tsUs + maxDelay from h)]; rfl

theorem setEcu_rn (s : St) (e : Nat) (lcs : List Lc) : setEcu (s.rn f) (f e) (lcs.map (Lc.rn f)) = (setEcu s e lcs).rn f :=
  congrArg (fun em => ({ s.rn f with ecuMap := em } : St)) (assocSet_map hf (List.map (Lc.rn f)) e lcs s.ecuMap)

theorem flushIfDrained_rn (s : St) : (s.rn f).flushIfDrained = s.flushIfDrained.rn f := by
  unfold St.flushIfDrained
  rw [apply_ite (St.rn f), ← flushAll_rn hf]
  exact ite_congr (by rw [rn_bufLcs, rn_bufMsgs, List.isEmpty_map]) (fun _ => rfl) (fun _ => rfl)

theorem mergeTail_rn (s : St) (a b e : Nat) (lcs : List Lc) :
    (s.rn f).mergeTail a b (f e) (lcs.map (Lc.rn f)) = (s.mergeTail a b e lcs).rn f := by
  have h : St.unpublishIfConfirmed { s.rn f with bufMsgs := relabel a b (s.rn f).bufMsgs } a =
      (St.unpublishIfConfirmed { s with bufMsgs := relabel a b s.bufMsgs } a).rn f := by
    rw [← unpublishIfConfirmed_rn, rn_bufMsgs, relabel_rn]; rfl
  simp only [St.mergeTail, h, ← flushIfDrained_rn hf, ← setEcu_rn hf]; rfl

theorem maybeMerge_rn (s : St) (m' : Msg) (lc2 prev : Lc) (rr : List Lc) :
    (s.rn f).maybeMerge (m'.rn f) (lc2.rn f) (prev.rn f) (rr.map (Lc.rn f)) =
    Prod.map (St.rn f) (Msg.rn f) (s.maybeMerge m' lc2 prev rr) := by
  -- the renamed lists as images under `map`; the test is the same since ids and times are not renamed
  simp only [maybeMerge_eq, apply_ite (Prod.map (St.rn f) (Msg.rn f)), merge_rn, ← List.map_cons, ← List.map_reverse]
  refine ite_congr ?_ (fun _ => congrArg (·, _) (mergeTail_rn hf ..)) fun _ => congrArg (·, _) (setEcu_rn hf ..)
  rw [rn_bufMsgs, List.filter_map, List.length_map, Lc.rn_endTime, Lc.rn_slight]
  rfl

theorem assignExisting_rn (s : St) (m : Msg) (last : Lc) (rr : List Lc) :
    (s.rn f).assignExisting (m.rn f) (last.rn f) (rr.map (Lc.rn f)) =
    Prod.map (St.rn f) (Msg.rn f) (s.assignExisting m last rr) := by
  unfold St.assignExisting
  rw [rn_nextId, update_rn]
  obtain ⟨r1, r2, r3⟩ := last.update s.nextId m
  cases r3 with
  | some nl =>
    have h := setEcu_rn hf { s with nextId := s.nextId + 1, bufLcs := s.bufLcs ++ [nl.id] } m.ecu (nl :: r1 :: rr).reverse
    rw [List.map_reverse] at h
    exact congrArg (·, r2.rn f) h
  | none =>
    cases rr with
    | nil => exact congrArg (·, r2.rn f) (setEcu_rn hf s m.ecu [r1])
    | cons prev rest => exact maybeMerge_rn hf s r2 r1 prev rest

theorem assign_rn (s : St) (m : Msg) : (s.rn f).assign (m.rn f) = Prod.map (St.rn f) (Msg.rn f) (s.assign m) := by
  have e1 : ((assocGet (m.rn f).ecu (s.rn f).ecuMap).getD []).reverse = (((assocGet m.ecu s.ecuMap).getD []).reverse).map (Lc.rn f) := by
    show ((assocGet (f m.ecu) (s.ecuMap.map fun p => (f p.1, p.2.map (Lc.rn f)))).getD []).reverse = _
    rw [assocGet_map hf]
    cases assocGet m.ecu s.ecuMap with
    | none => rfl
    | some L => exact List.map_reverse.symm
  unfold St.assign
  rw [e1]
  cases ((assocGet m.ecu s.ecuMap).getD []).reverse with
  | nil => exact congrArg (·, (Lc.new s.nextId m).2.rn f) (setEcu_rn hf { s with nextId := s.nextId + 1, bufLcs := s.bufLcs ++ [(Lc.new s.nextId m).1.id] } m.ecu [(Lc.new s.nextId m).1])
  | cons last rr => exact assignExisting_rn hf s m last rr

theorem flushOne_rn (s : St) (m : Msg) : (s.rn f).flushOne (m.rn f) = (s.flushOne m).rn f :=
  (congrArg (St.emit · (m.rn f)) (mark_rn f s m.lc)).trans (emit_rn hf _ m)

theorem deliver_rn (s : St) (m : Msg) : (s.rn f).deliver (m.rn f) = (s.deliver m).rn f := by
  unfold St.deliver
  rw [apply_ite (St.rn f)]
  -- with nothing buffered `deliver` is `flushOne`
  refine ite_congr rfl (fun _ => ?_) (fun _ => flushOne_rn hf s m)
  show ({ s.rn f with bufMsgs := s.bufMsgs.map (Msg.rn f) ++ [m.rn f] } : St) = _
  rw [← List.map_singleton, ← List.map_append]; rfl

theorem step_rn (s : St) (m : Msg) : (s.rn f).step (m.rn f) = (s.step m).rn f := by
  unfold St.step
  -- rewritten while the call occurs once, and its result named: the `let` would copy it five times
  rw [assign_rn hf]
  generalize s.assign m = a
  dsimp only
  rw [apply_ite (St.rn f), apply_ite (St.rn f), ← deliver_rn hf, ← confirm_rn hf]
  rfl

theorem steps_rn (ms : List Msg) (s : St) : (ms.map (Msg.rn f)).foldl St.step (s.rn f) = (ms.foldl St.step s).rn f :=
  foldl_rn _ _ _ _ (step_rn hf) ms s

theorem finish_rn (s : St) : (s.rn f).finish = s.finish.rn f := by
  have h1 : ∀ (P : St → Lc → Bool), (∀ s l, P (s.rn f) (l.rn f) = P s l) → ∀ x : St, ((x.rn f).publishWhere P).refresh = ((x.publishWhere P).refresh).rn f :=
    fun P hP x => by rw [publishWhere_rn f P hP, refresh_rn]
  have h2 : ∀ x : St, ({ (x.rn f).bufMsgs.foldl St.flushOne (x.rn f) with bufMsgs := [] } : St) =
      ({ x.bufMsgs.foldl St.flushOne x with bufMsgs := [] } : St).rn f := fun x =>
    congrArg (fun y : St => ({ y with bufMsgs := [] } : St)) (foldl_rn (St.rn f) (Msg.rn f) _ _ (flushOne_rn hf) x.bufMsgs x)
  unfold St.finish
  rw [apply_ite (St.rn f)]
  refine ite_congr rfl (fun _ => rfl) (fun _ => ?_)
  -- each phase is rewritten while it still occurs once; naming its result keeps the later phases small
  rw [h1 _ (fun _ _ => rfl)]
  generalize (s.publishWhere _).refresh = s1
  simp only []
  rw [h2]
  generalize ({ s1.bufMsgs.foldl St.flushOne s1 with bufMsgs := [] } : St) = s2
  rw [h1 _ (fun _ _ => rfl)]
  rfl

theorem run_rn (ms : List Msg) : run (ms.map (Msg.rn f)) = (run ms).rn f :=
  (congrArg St.finish (steps_rn hf ms {})).trans (finish_rn hf _)

end

def OutObs.rn (o : OutObs) : OutObs := { o with m := o.m.rn f }
def TblObs.rn (t : TblObs) : TblObs := { t with ecu := f t.ecu }

theorem observe_rn (s : St) :
    observe (s.rn f) = { out := (observe s).out.map (OutObs.rn f), tbl := (observe s).tbl.map (TblObs.rn f) } := by
  unfold observe
  simp only [rn_out, rn_published, List.map_map, List.map_reverse]
  congr 1

theorem extend_injection (S : List Nat) (g : Nat → Nat) (hg : ∀ a ∈ S, ∀ b ∈ S, g a = g b → a = b) :
    ∃ f : Nat → Nat, (∀ a b, f a = f b → a = b) ∧ ∀ a ∈ S, f a = g a := by
  -- ids outside `S` are moved above every `g x`, `x ∈ S`
  have hb : ∀ x ∈ S, g x ≤ (S.map g).max?.getD 0 := fun x hx =>
    List.le_max?_getD_of_mem (List.mem_map.mpr ⟨x, hx, rfl⟩)
  refine ⟨fun x => if x ∈ S then g x else x + ((S.map g).max?.getD 0 + 1), fun a b hab => ?_, fun a ha => if_pos ha⟩
  have above : ∀ {x y M : Nat}, x ≤ M → x = y + (M + 1) → a = b := fun h e =>
    absurd (Nat.le_trans (Nat.le_add_left _ _) (e ▸ h)) (Nat.not_succ_le_self _)
  by_cases ha : a ∈ S <;> by_cases hbS : b ∈ S <;> simp only [ha, hbS, if_true, if_false] at hab
  · exact hg a ha b hbS hab
  · exact above (hb a ha) hab
  · exact above (hb b hbS) hab.symm
  · exact Nat.add_right_cancel hab

end Lcm
