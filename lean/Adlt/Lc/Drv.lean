import Adlt.Lc.Spec
import Adlt.Lc.Listing
import Adlt.Util.Parse
/-! Line-protocol glue for the lifecycle model: `case \t implobs` -> `modelobs \t oracle(impl) \t oracle(model) \t branches`. -/
namespace Lcm
open Util

def parseMsg (i : Nat) (s : String) : Option Msg :=
  match (s.splitOn ",").map String.toNat? with
  | [some e, some r, some t, some h, some c] =>
    some { index := i, recv := r, ecu := e, tsDms := t, hasTs := h == 1, ctrlReq := c == 1 }
  | [some e, some r, some t, some h, some c, some _boot] =>
    some { index := i, recv := r, ecu := e, tsDms := t, hasTs := h == 1, ctrlReq := c == 1 }
  | _ => none

/-- ground truth of a clean trace: the boot number of each message -/
def parseBoots (line : String) : List Nat :=
  (fields line ";").map fun p => match (p.splitOn ",").map nat! with | [_, _, _, _, _, b] => b | _ => 0

def parseCase (line : String) : List Msg :=
  ((fields line ";").zipIdx.filterMap fun (p, i) => parseMsg i p)

/-- canonical text of an observation: ids renumbered by first appearance among delivered messages -/
def canonObs (ms : List Msg) (o : Obs) : String :=
  let ids := firstSeen (o.out.map (·.lc))
  let outs := o.out.map fun x =>
    let same := ms.any fun m => eraseLc m == x.m
    s!"{x.m.index}:{canonIdx ids x.lc}:{b2s x.vis}:{b2s same}"
  let tbl := o.tbl.map fun t => (canonIdx ids t.id, t.ecu, t.n, t.start, t.endT, t.resume, t.key)
  let tbl := tbl.toArray.qsort (fun a b => decide (toString a < toString b)) |>.toList
  " ".intercalate outs ++ " | " ++
    " ".intercalate (tbl.map fun (k, e, n, st, en, r, ky) => s!"{k},{e},{n},{st},{en},{b2s r},{ky}")

def poison (i : Nat) : Msg := { index := i, recv := 0, ecu := 0, tsDms := 0, hasTs := false, ctrlReq := false, lc := 1 }

def parseListing (c : String) : Option (List (Nat × LcE)) :=
  if c.trimAscii.toString == "PANIC" then none else
  some ((fields c " ").map fun f =>
    match ((f.splitOn ",").map nat!).take 4 with
    | [k, st, r, rel] => (k, ({ id := rel, start := st, resume := if r == 0 then none else some r } : LcE))
    | _ => (0, { id := 0, start := 0, resume := none }))

/-- the keys `adlt remote` orders its listing by: (relative raw id, id of the resumed lifecycle or 0, key) -/
def parseKeys (c : String) : List (Nat × Nat × Nat) :=
  (fields c " ").filterMap fun f =>
    match (f.splitOn ",").map nat! with
    | [_, _, r, rel, ky] => some (rel, r, ky)
    | _ => none

/-- every resumed lifecycle has a key strictly behind the key of the lifecycle it resumes -/
def keysOrdered (ks : List (Nat × Nat × Nat)) : Bool :=
  ks.all fun (_, r, ky) => r == 0 || ks.all fun (rel', _, ky') => rel' != r || ky' < ky

/-- rebuild an `Obs` from the implementation's canonical text -/
def parseObs (ms : List Msg) (s : String) : Option Obs :=
  match (s.splitOn " | ").take 2 with
  | [a, b] =>
    let outs := (fields a " ").map fun f =>
      match (f.splitOn ":").map nat! with
      | [i, k, v, same] =>
        let m := if same == 1 then (match ms.find? (·.index == i) with | some m => eraseLc m | none => poison i) else poison i
        ({ m := m, lc := k, vis := v == 1 } : OutObs)
      | _ => { m := poison 0, lc := 0, vis := false }
    let tbl := (fields b " ").map fun f =>
      match (f.splitOn ",").map nat! with
      | [k, e, n, st, en, r, ky] => ({ id := k, ecu := e, n := n, start := st, endT := en, resume := r == 1, key := ky } : TblObs)
      | [k, e, n, st, en, r] => ({ id := k, ecu := e, n := n, start := st, endT := en, resume := r == 1, key := st } : TblObs)
      | _ => { id := 0, ecu := 0, n := 0, start := 0, endT := 0, resume := false, key := 0 }
    some { out := outs, tbl := tbl }
  | _ => none

def listingOracle (o : Obs) (L : Option (List (Nat × LcE))) (keys : List (Nat × Nat × Nat) := []) : String :=
  match L with
  | none => "FAIL:listing-panics"
  | some KL =>
    let L := KL.map (·.2)
    if !Spec.listOnce (o.tbl.map (·.id)) (KL.map fun (k, e) => { e with id := k }) then "FAIL:listing-not-each-once"
    else if !Spec.resumeAfterOrigin L then "FAIL:listing-resumed-before-origin"
    else if !Spec.sortedIfNoResume L then "FAIL:listing-not-sorted-by-start"
    else if !Spec.resumeIdsIncrease L then "FAIL:resume-origin-id-not-smaller"
    else if (listing L).map (·.id) != L.map (·.id) then "FAIL:listing-differs-from-model-sort"
    else if !keysOrdered keys then "FAIL:remote-listing-key-resumed-not-behind-origin"
    else "ok"

def oracle (ms : List Msg) (o : Obs) (L : Option (Option (List (Nat × LcE))) := none) (keys : List (Nat × Nat × Nat) := []) : String :=
  let c05 := if !Spec.C05order ms o then "FAIL:order" else if !Spec.C05nonzero o then "FAIL:zero-id"
             else if !Spec.C06 o then "FAIL:foreign-or-unpublished-id" else "ok"
  let c06 := if Spec.C06 o then "ok" else "FAIL:unpublished-at-delivery"
  let c07 := if !Spec.C07listedOnce o then "FAIL:listed-twice" else if !Spec.C07covers o then "FAIL:delivered-id-not-listed"
             else if !Spec.C07exact o then "FAIL:count-mismatch" else if !Spec.C07ecu o then "FAIL:ecu-mismatch"
             else if !Spec.C07referenced o then "FAIL:phantom-entry" else if !Spec.C07sum o then "FAIL:sum"
             else match L with
               | none => "ok"
               | some L => listingOracle o L keys
  s!"C05={c05};C06={c06};C07={c07}"

/-- coarse branch coverage of a model run (for generator-quality evidence) -/
def branches (ms : List Msg) (s : St) : String :=
  let o := observe s
  let nLc := (firstSeen (o.out.map (·.lc))).length
  let necu := (firstSeen (ms.map (·.ecu))).length
  let tags : List String :=
    (if s.panicked then ["assert"] else []) ++
    (if nLc > necu then ["multi-lc"] else []) ++
    (if o.tbl.any (·.resume) then ["resume"] else []) ++
    (if o.tbl.length > nLc then ["phantom"] else []) ++
    (if ms.any (·.ctrlReq) then ["ctrl"] else []) ++
    (if ms.any (fun m => !m.hasTs) then ["no-ts"] else []) ++
    (if necu > 1 then ["multi-ecu"] else [])
  ",".intercalate tags

def doLine (line : String) : String :=
  let (c, impl) := match line.splitOn "\t" with
    | [c, i] => (c, i)
    | [c] => (c, "")
    | _ => ("", "")
  let ms := parseCase c
  let s := run ms
  let mobs := if s.panicked then "PANIC" else canonObs ms (observe s)
  let oi := if impl == "" then "-" else if impl == "PANIC" then "C05=PANIC;C06=PANIC;C07=PANIC" else
    match parseObs ms impl with
    | some o => oracle ms o (some (parseListing (((impl.splitOn " | ").drop 2).headD ""))) (parseKeys (((impl.splitOn " | ").drop 2).headD ""))
    | none => "C05=FAIL:unparsable;C06=FAIL:unparsable;C07=FAIL:unparsable"
  let om := if s.panicked then "C05=PANIC;C06=PANIC;C07=PANIC" else oracle ms (observe s)
  s!"{mobs}\t{oi}\t{om}\t{branches ms s}"

/-! ### C08: cleanly separated power cycles -/

structure Boot where
  ecu : Nat
  boot : Nat
  start : Nat      -- boot time + transport delay = reception time - timestamp (constant within a boot)
  maxTs : Nat      -- largest timestamp (us)
  n : Nat
deriving Repr, DecidableEq

def bootsOf (ms : List Msg) (bs : List Nat) : List Boot :=
  (ms.zip bs).foldl (fun acc (m, b) =>
    match acc.find? (fun x => x.ecu == m.ecu && x.boot == b) with
    | some x => acc.map fun y => if y.ecu == m.ecu && y.boot == b then { y with maxTs := max y.maxTs m.tsUs, n := y.n + 1 } else y
    | none => acc ++ [{ ecu := m.ecu, boot := b, start := m.recv - m.tsUs, maxTs := m.tsUs, n := 1 }]) []

/-- the region in which exact detection is claimed (DESIGN.md, C08): the next boot starts after the end of the previous one,
    or overlaps its end by less than the "slightly overlapping" window while the previous boot was longer than 10 s -/
def c08Region (boots : List Boot) : Bool :=
  boots.all fun b => boots.all fun b' =>
    !(b.ecu == b'.ecu && b'.boot == b.boot + 1) ||
    (let e := b.start + b.maxTs
     b'.start > e || (b'.start ≤ e && b'.start + usPerSec * Gen.lcSlightOverlapSecs > e && e > b.start + usPerSec * Gen.lcMinLenForOverlapSecs))

/-- exactly one lifecycle per boot per ECU, every message in the lifecycle of its boot, start = boot time + delay,
    end = start + largest timestamp, count = number of messages of the boot -/
def c08Exact (ms : List Msg) (bs : List Nat) (o : Obs) : Bool :=
  let boots := bootsOf ms bs
  let lcOf (i : Nat) : Nat := match o.out.find? (·.m.index == i) with | some x => x.lc | none => 0
  o.out.length == ms.length && o.tbl.length == boots.length &&
  boots.all fun b =>
    let idx := ((ms.zip bs).filter fun (m, bb) => m.ecu == b.ecu && bb == b.boot).map (·.1.index)
    match idx with
    | [] => true
    | i0 :: _ =>
      let l := lcOf i0
      idx.all (fun i => lcOf i == l) &&
      (((ms.zip bs).filter fun (m, bb) => lcOf m.index == l)).all (fun (m, bb) => m.ecu == b.ecu && bb == b.boot) &&
      o.tbl.any fun t => t.id == l && t.ecu == b.ecu && t.n == b.n && t.start == b.start && t.endT == b.start + b.maxTs

def doLine8 (line : String) : String :=
  let (c, impl) := match line.splitOn "\t" with
    | [c, i] => (c, i)
    | [c] => (c, "")
    | _ => ("", "")
  let ms := parseCase c
  let bs := parseBoots c
  let s := run ms
  let mobs := if s.panicked then "PANIC" else canonObs ms (observe s)
  let inReg := c08Region (bootsOf ms bs)
  let orc (o : Option Obs) : String :=
    match o with
    | none => "C08=FAIL:unparsable"
    | some o =>
      if c08Exact ms bs o then "C08=ok"
      else if inReg then "C08=FAIL:clean-trace-in-claimed-region-not-detected-exactly"
      else "C08=FAIL:clean-trace-outside-claimed-region-fused-or-split"
  let oi := if impl == "" then "-" else if impl == "PANIC" then "C08=FAIL:panic" else orc (parseObs ms impl)
  let nb := (bootsOf ms bs).length
  let tags : List String :=
    (if inReg then ["claimed-region"] else ["outside-region"]) ++ (if nb > (firstSeen (ms.map (·.ecu))).length then ["multi-boot"] else []) ++
    (if (firstSeen (ms.map (·.ecu))).length > 1 then ["multi-ecu"] else []) ++
    (if (observe s).tbl.any (·.resume) then ["resume-flagged"] else []) ++
    (if ms.any (·.tsDms == 0) then ["first-ts-0"] else [])
  s!"{mobs}\t{oi}\t{orc (if s.panicked then none else some (observe s))}\t{",".intercalate tags}"

/-! ### C07 at the level of the `adlt remote` binary: the lifecycle table a client ends up with -/

/-- case text with runs `*<n>,<ecu>,<recv>,<ts>,<step>` -/
def expandCase (line : String) : List Msg :=
  let items : List (Nat × Nat × Nat × Bool × Bool) := (fields line ";").flatMap fun p =>
    if p.startsWith "*" then
      match ((p.drop 1).toString.splitOn ",").map nat! with
      | [n, e, r, t, st] => (List.range n).map fun k => (e, r + k * st, t + k * st / 100, true, false)
      | _ => []
    else
      match ((p.splitOn ",").map nat!).take 5 with
      | [e, r, t, h, c] => [(e, r, if h == 1 then t else 0, h == 1, c == 1)]   -- a message without a time stamp has none in the file
      | _ => []
  items.zipIdx.map fun ((e, r, t, h, c), i) => { index := i, recv := r, ecu := e, tsDms := t, hasTs := h, ctrlReq := c }

def rankIn (ids : List Nat) (id : Nat) : Nat := match ids.idxOf? id with | some i => i + 1 | none => 0

def rlcModel (ms : List Msg) : String :=
  let s := run ms
  let tbl := (s.published.map (·.2)).filter fun l => decide (l.nrCtrl < l.nrMsgs)
  let tbl := isortStable (fun (a b : Lc) => decide (a.id ≤ b.id)) tbl
  let ids := tbl.map (·.id)
  let L := tbl.map fun l => s!"{rankIn ids l.id},{l.ecu},{l.nrMsgs},{l.start},{l.endTime},{b2s l.resume.isSome}"
  let T := (isortStable (fun (a b : Lc) => decide (a.resumeStart ≤ b.resumeStart)) tbl).map fun l =>
    s!"{rankIn ids l.id},{l.ecu},{l.nrMsgs},{l.endTime},{b2s l.resume.isSome}"
  let R := tbl.filterMap fun l => match l.resume with
    | some r => if ids.contains r.id then some s!"{rankIn ids l.id}-{rankIn ids r.id}" else none
    | none => none
  s!"T:{" ".intercalate T} L:{" ".intercalate L} R:{" ".intercalate R}"

def rlcOracle (obs : String) : String :=
  if !obs.startsWith "T:" then (if obs.startsWith "INCOMPLETE" then "C07=FAIL:remote-file-not-fully-processed" else "C07=FAIL:server-not-reachable") else
  match (obs.drop 2).toString.splitOn " L:" with
  | [t, rest] =>
    match rest.splitOn " R:" with
    | [l, r] =>
      let T := fields t " "
      let L := fields l " "
      let proj (e : String) : String := match e.splitOn "," with | [k, ec, n, _, en, rs] => s!"{k},{ec},{n},{en},{rs}" | _ => e
      let Lp := L.map proj
      let idOf (e : String) : String := (e.splitOn ",").headD ""
      let pos (k : String) : Nat := match (T.map idOf).idxOf? k with | some i => i | none => 0
      let resumedOk := (fields r " ").all fun pr => match pr.splitOn "-" with | [b, a] => pos a < pos b | _ => true
      if T.length != L.length then "C07=FAIL:remote-listing-has-other-lifecycles-than-the-final-table"
      else if !(T.all fun e => Lp.contains e) || !(Lp.all fun e => T.contains e) then "C07=FAIL:remote-listing-entry-differs-from-the-final-table"
      else if !resumedOk then "C07=FAIL:remote-listing-resumed-before-origin"
      else "C07=ok"
    | _ => "C07=FAIL:unparsable"
  | _ => "C07=FAIL:unparsable"

def doLineRlc (line : String) : String :=
  let (c, impl) := match line.splitOn "\t" with
    | [c, i] => (c, i)
    | [c] => (c, "")
    | _ => ("", "")
  let ms := expandCase c
  -- the list based model is quadratic in the queue length: beyond a few thousand messages the implementation's own final
  -- table (part L of its observation) stands in for the model's; the model is tied to it by the `lc` area
  let big := ms.length > 4000
  let mobs := if big then impl else rlcModel ms
  let tags : List String :=
    (if big then ["big"] else ["small"]) ++ (if (mobs.splitOn " R:").getD 1 "" != "" then ["resume"] else []) ++
    (if ms.any (·.ctrlReq) then ["ctrl"] else [])
  s!"{mobs}\t{if impl == "" then "-" else rlcOracle impl}\t{if big then "C07=ok" else rlcOracle mobs}\t{",".intercalate tags}"

end Lcm
