import Adlt.Lc.Ops
/-! C08, whole trace (part B): the *labelled* first-in first-out sequence. `seqL s` = the messages delivered so far followed
    by the queued ones, with the lifecycle ids they carry. Confirmation, release, flush and delivery move messages from the
    queue to the output without touching them; only the merge path (inside `assign`) relabels. One step is `step_L`:
    Fifo.lean (C05) reads it with the labels erased, CleanTrace.lean (C08) with the labels of the boots. -/
namespace Lcm

def St.outL (s : St) : List Msg := (s.out.map (·.m)).reverse
def St.seqL (s : St) : List Msg := s.outL ++ s.bufMsgs

/-- the queue is empty while no lifecycle is buffered (messages wait only for a confirmation) -/
def St.ok (s : St) : Prop := s.bufLcs = [] → s.bufMsgs = []

theorem outL_delivered (s : St) (pre : List Msg) (tr : List Nat) (post : List Msg) :
    (s.delivered pre tr post).outL = s.outL ++ pre := by
  simp [St.outL, Function.comp_def]

theorem seqL_delivered (s : St) (pre : List Msg) (tr : List Nat) (post : List Msg) (h : s.bufMsgs = pre ++ post) :
    (s.delivered pre tr post).seqL = s.seqL := by
  rw [St.seqL, St.seqL, outL_delivered, h, List.append_assoc]

theorem flushAll_L (s : St) : s.flushAll.seqL = s.seqL := by
  obtain ⟨tr, _, e⟩ := flushAll_eq s
  rw [e, seqL_delivered s _ tr [] (List.append_nil _).symm]

theorem confirm_L (s : St) (m : Msg) : (s.confirm m).seqL = s.seqL :=
  confirm_inv (I := fun t => t.seqL = s.seqL) s m rfl
    (fun t lc pre post tr _ h r => (seqL_delivered (t.confirmed lc) pre tr post r.split).trans h) (fun _ _ h => h)

theorem deliver_L (s : St) (m : Msg) (h : s.ok) : (s.deliver m).seqL = s.seqL ++ [m] := by
  rcases deliver_eq s m with ⟨_, e⟩ | ⟨hb, e⟩ <;> rw [e]
  · simp [St.seqL, St.outL]
  · rw [St.seqL, St.seqL, outL_delivered, h hb]; simp

theorem finish_L (s : St) (hs : s.panicked = false) : s.finish.outL = s.seqL := by
  obtain ⟨tr, _, _, e⟩ := finish_eq s hs
  rw [e]
  simp [St.outL, St.seqL, Function.comp_def]

/-! ### the queue drains with the buffered set -/

theorem confirm_ok (s : St) (m : Msg) (h : s.ok) : (s.confirm m).ok := by
  refine confirm_inv (I := St.ok) s m h (fun t lc pre post tr _ _ r => ?_) (fun _ _ h => h)
  -- what stays queued begins with a message of a buffered lifecycle
  intro (he : t.bufLcs.erase lc.id = [])
  cases post with
  | nil => rfl
  | cons a _ => exact absurd (r.postBuffered a rfl) (by simp [he])

theorem assign_ok (s : St) (m : Msg) (h : s.ok) : (s.assign m).1.ok := by
  cases assign_cases s m with
  | append _ eq =>
    rw [eq]
    exact fun h => absurd h (List.append_ne_nil_of_right_ne_nil _ (List.cons_ne_nil _ _))
  | keep _ _ _ eq =>
    rw [eq]
    exact h
  | merge _ _ _ _ eq =>
    rw [eq]
    rcases mergeTail_cases s _ _ m.ecu _ with ⟨e, hok⟩ | ⟨_, _, _, e⟩ <;> rw [e]
    · exact hok
    · exact fun _ => rfl

theorem deliver_ok (s : St) (m : Msg) (h : s.ok) : (s.deliver m).ok := by
  rcases deliver_eq s m with ⟨hb, e⟩ | ⟨hb, e⟩ <;> rw [e]
  · exact fun he => absurd he hb
  · exact fun _ => h hb

/-- whatever `assign` made of the sequence, `confirm` and `deliver` only append the message as `assign` labelled it -/
theorem step_L (s : St) (m : Msg) (hok : s.ok) :
    (((s.assign m).1.confirm (s.assign m).2).deliver (s.assign m).2).seqL = (s.assign m).1.seqL ++ [(s.assign m).2] ∧
    (((s.assign m).1.confirm (s.assign m).2).deliver (s.assign m).2).ok := by
  have cok := confirm_ok _ (s.assign m).2 (assign_ok s m hok)
  exact ⟨by rw [deliver_L _ _ cok, confirm_L], deliver_ok _ _ cok⟩

theorem step_ok (s : St) (m : Msg) (hok : s.ok) : (s.step m).ok :=
  step_inv (I := St.ok) s m hok (step_L s m hok).2

end Lcm
