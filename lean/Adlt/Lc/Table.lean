import Adlt.Lc.Final
import Adlt.Lc.Sum
import Adlt.Lc.Fifo
import Adlt.Lc.Spec
/-! C07 (counts, part 3): what the final table says, in the terms of the observation: ids listed once, every entry a live
    (never a merged) lifecycle with its final count, the counts add up to the number of delivered messages. -/
namespace Lcm

theorem mem_allLive (em : List (Nat × List Lc)) (lc : Lc) : lc ∈ allLive em ↔ Live em lc := by
  unfold allLive Live
  simp only [List.mem_flatMap]

/-- within a list the ids differ; lists under different keys hold lifecycles of different ECUs -/
theorem allLive_nodup (em : List (Nat × List Lc)) (n : Nat) (hm : MapInv em n) : (allLive em).Nodup := by
  refine List.pairwise_flatMap.mpr ⟨fun p hp => ?_, ?_⟩
  · exact List.Pairwise.of_map (·.id) (fun _ _ hne e => hne (congrArg _ e)) (hm.idsNodup p hp)
  · refine (List.pairwise_map.mp hm.keysNodup).imp_of_mem fun {p q} hp hq hne x hx y hy e => hne ?_
    rw [← hm.ecuKey p hp x hx, e, hm.ecuKey q hq y hy]

/-- the table at the end of a run: every live lifecycle listed under its id with its value, nothing else, no id twice -/
theorem run_final (ms : List Msg) :
    (∀ lc, Live (run ms).ecuMap lc → assocGet lc.id (run ms).published = some lc) ∧
    (∀ kv ∈ (run ms).published, Live (run ms).ecuMap kv.2 ∧ kv.2.id = kv.1) ∧
    (keys (run ms).published).Nodup :=
  finish_final _ (steps_linv ms {} init_linv) (steps_finv ms {} init_linv idpos_init init_finv) (steps_panicked ms {})

theorem run_mapInv (ms : List Msg) : MapInv (run ms).ecuMap (ms.foldl St.step {}).nextId := by
  rw [run, finish_ecuMap]; exact (steps_linv ms {} init_linv).map

theorem live_tblObs (ms : List Msg) (l : Lc) (hl : Live (run ms).ecuMap l) :
    ({ id := l.id, ecu := l.ecu, n := l.nrMsgs, start := l.start, endT := l.endTime, resume := l.resume.isSome,
       key := l.resumeStart } : TblObs) ∈ (observe (run ms)).tbl :=
  List.mem_map.mpr ⟨(l.id, l), assocGet_mem _ _ _ ((run_final ms).1 l hl), rfl⟩

theorem table_perm_live (ms : List Msg) : ((run ms).published.map (·.2)).Perm (allLive (run ms).ecuMap) := by
  obtain ⟨t1, t2, t3⟩ := run_final ms
  -- an entry is determined by its key, which is the id of its value
  have hB : ((run ms).published.map (·.2)).Nodup :=
    List.pairwise_map.mpr ((List.pairwise_map.mp t3).imp_of_mem fun {a b} ha hb hne e =>
      hne (by rw [← (t2 a ha).2, ← (t2 b hb).2, e]))
  refine (List.perm_ext_iff_of_nodup hB (allLive_nodup _ _ (run_mapInv ms))).mpr fun a => ⟨fun ha => ?_, fun ha => ?_⟩
  · obtain ⟨kv, hkv, rfl⟩ := List.mem_map.mp ha
    exact (mem_allLive _ _).mpr (t2 kv hkv).1
  · exact List.mem_map.mpr ⟨(a.id, a), assocGet_mem _ _ _ (t1 a ((mem_allLive _ _).mp ha)), rfl⟩

theorem table_counts_sum (ms : List Msg) : ((run ms).published.map (·.2.nrMsgs)).sum = (run ms).out.length := by
  have h1 := ((table_perm_live ms).map (·.nrMsgs)).sum_nat
  rw [List.map_map] at h1
  have h2 := congrArg List.length (C05_once_in_order ms (run_not_panicked ms))
  rw [St.outSeq, List.length_reverse, List.length_map, List.length_map] at h2
  exact (h1.trans (live_counts_sum ms)).trans h2.symm

end Lcm
