import Adlt.Lc.Pub
/-! Ids are handed out from 1 upwards, so every live lifecycle has an id ≥ 1 (`Final.lean` needs it: the flush loop does not
    mark the id 0). That every queued and delivered message carries such an id (C05, non-zero id) follows, since those ids
    are ids of live lifecycles (`LInv.msgs`, `CI.outLive`). -/
namespace Lcm

structure IdPos (s : St) : Prop where
  next : 1 ≤ s.nextId
  live : ∀ p ∈ s.ecuMap, ∀ lc ∈ p.2, 1 ≤ lc.id

theorem idpos_confirm (s : St) (m : Msg) (h : IdPos s) : IdPos (s.confirm m) :=
  confirm_inv s m h (fun _ _ _ _ _ _ ht _ => ⟨ht.next, ht.live⟩) (fun _ _ h => ⟨h.next, h.live⟩)

/-- the list of the message's ECU is replaced by lifecycles with ids ≥ 1 -/
theorem idpos_set (s s' : St) (h : IdPos s) (e : Nat) (lcs : List Lc) (hn : s.nextId ≤ s'.nextId)
    (hem : s'.ecuMap = assocSet e lcs s.ecuMap) (hl : ∀ lc ∈ lcs, 1 ≤ lc.id) : IdPos s' := by
  refine ⟨Nat.le_trans h.next hn, fun p hp lc hlc => ?_⟩
  rcases mem_assocSet_weak e lcs s.ecuMap p (hem ▸ hp) with hp | hp
  · subst hp; exact hl lc hlc
  · exact h.live p hp lc hlc

theorem idpos_assign (s : St) (m : Msg) (h : IdPos s) : IdPos (s.assign m).1 := by
  have hold : ∀ lc ∈ oldList s.ecuMap m.ecu, 1 ≤ lc.id := fun lc hlc =>
    (oldList_live _ _ lc hlc).elim fun p hp => h.live p hp.1 lc hp.2
  cases assign_cases s m with
  | append N eq h1 =>
    rw [eq]
    exact idpos_set s _ h m.ecu _ (Nat.le_succ _) rfl
      (List.forall_mem_append.mpr ⟨hold, List.forall_mem_singleton.mpr (h1 ▸ h.next)⟩)
  | keep pre last r eq hL h1 =>
    rw [eq]
    rw [hL, List.forall_mem_append, List.forall_mem_singleton] at hold
    exact idpos_set s _ h m.ecu _ (Nat.le_refl _) rfl
      (List.forall_mem_append.mpr ⟨hold.1, List.forall_mem_singleton.mpr (h1 ▸ hold.2)⟩)
  | merge pre prev last r eq hL =>
    rw [eq]
    rw [hL, List.forall_mem_append] at hold
    -- `(_, _).1` reduced here: left to the unifier, it unfolds `mergeTail` first
    dsimp only
    exact idpos_set s _ h m.ecu _ (Nat.le_of_eq (mergeTail_nextId ..).symm) (mergeTail_ecuMap ..) (List.forall_mem_append.mpr
      ⟨hold.1, List.forall_mem_singleton.mpr ((merge_facts prev r).1 ▸ hold.2 prev List.mem_cons_self)⟩)

theorem idpos_deliver (s : St) (m : Msg) (h : IdPos s) : IdPos (s.deliver m) := by
  rcases deliver_eq s m with ⟨_, e⟩ | ⟨_, e⟩ <;> rw [e] <;> exact ⟨h.next, h.live⟩

theorem idpos_init : IdPos ({} : St) := ⟨Nat.le_refl 1, List.forall_mem_nil _⟩

theorem idpos_step (s : St) (m : Msg) (h : IdPos s) : IdPos (s.step m) :=
  step_inv s m h (idpos_deliver _ _ (idpos_confirm _ _ (idpos_assign s m h)))

end Lcm
