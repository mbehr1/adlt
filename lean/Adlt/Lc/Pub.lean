import Adlt.Lc.Ops
/-! C06 - the lifecycle of every delivered message is already published. Here the invariant `LInv` is defined (with `MapInv`
    for the per-ECU map, `MsgOk`, `PubOk`) and taken through the operations; the lemmas about replacing the list of one ECU
    (`live_setEcu`, `tail_replaced`, `live_append`, `live_update_last`) also serve Final.lean and Counts.lean. -/
namespace Lcm

/-- the readers' table lists `id` with a lifecycle of ECU `ecu` (what `emit` looks up) -/
def PubOk (pub : List (Nat × Lc)) (id ecu : Nat) : Prop := ∃ l, assocGet id pub = some l ∧ l.ecu = ecu

structure MapInv (em : List (Nat × List Lc)) (nextId : Nat) : Prop where
  keysNodup : (keys em).Nodup                                   -- one list per ECU
  ecuKey : ∀ p ∈ em, ∀ lc ∈ p.2, lc.ecu = p.1                   -- ... holding lifecycles of that ECU
  fresh : ∀ lc, Live em lc → lc.id < nextId                     -- ids in use are below the next one handed out
  uniq : ∀ a b, Live em a → Live em b → a.id = b.id → a.ecu = b.ecu   -- an id is used on one ECU only
  idsNodup : ∀ p ∈ em, (p.2.map (·.id)).Nodup                   -- ... and once in its list

def MsgOk (em : List (Nat × List Lc)) (m : Msg) : Prop := ∃ lc, Live em lc ∧ lc.id = m.lc ∧ lc.ecu = m.ecu

structure LInv (s : St) : Prop where
  map : MapInv s.ecuMap s.nextId
  msgs : ∀ m ∈ s.bufMsgs, MsgOk s.ecuMap m                      -- a queued message carries the id of a live lifecycle of its ECU
  pub : ∀ lc, Live s.ecuMap lc → lc.id ∉ s.bufLcs → PubOk s.published lc.id lc.ecu   -- confirmed: in the readers' table, with its ECU
  pend : s.pending = []                                         -- between two steps nothing waits for a refresh
  vis : ∀ o ∈ s.out, o.visible = true                           -- C06 for what has left so far

theorem pubOk_of_msg (s : St) (hi : LInv s) (m : Msg) (hm : MsgOk s.ecuMap m) (hb : m.lc ∉ s.bufLcs) :
    PubOk s.published m.lc m.ecu := by
  obtain ⟨lc, hl, hid, hecu⟩ := hm
  exact hid ▸ hecu ▸ hi.pub lc hl (hid.symm ▸ hb)

theorem vis_delivered (pub : List (Nat × Lc)) (pre : List Msg) (out : List OutMsg) (hv : ∀ o ∈ out, o.visible = true)
    (hp : ∀ m ∈ pre, PubOk pub m.lc m.ecu) : ∀ o ∈ (pre.map (outOf pub)).reverse ++ out, o.visible = true := by
  intro o ho
  rcases List.mem_append.mp ho with h | h
  · obtain ⟨m, hm, rfl⟩ := List.mem_map.mp (List.mem_reverse.mp h)
    obtain ⟨l, hl, he⟩ := hp m hm
    simpa [outOf, hl] using he
  · exact hv o h

theorem linv_delivered (s : St) (hi : LInv s) (pre : List Msg) (tr : List Nat) (post : List Msg)
    (hpost : ∀ m ∈ post, MsgOk s.ecuMap m) (hp : ∀ m ∈ pre, PubOk s.published m.lc m.ecu) :
    LInv (s.delivered pre tr post) :=
  { map := hi.map, msgs := hpost, pub := hi.pub, pend := hi.pend, vis := vis_delivered _ pre _ hi.vis hp }

@[simp] theorem emit_ecuMap (s : St) (m : Msg) : (s.emit m).ecuMap = s.ecuMap := rfl
@[simp] theorem emit_published (s : St) (m : Msg) : (s.emit m).published = s.published := rfl

theorem released_linv (s : St) (lc : Lc) (pre post : List Msg) (tr : List Nat) (hi : LInv s) (hlive : Live s.ecuMap lc)
    (r : Released s lc pre post tr) : LInv ((s.confirmed lc).delivered pre tr post) := by
  have hpub := confirmed_published s lc hi.pend
  -- whoever carries the id of `lc` is on its ECU, and `lc` is in the table now
  have hself : ∀ lc', Live s.ecuMap lc' → lc'.id = lc.id → PubOk (s.confirmed lc).published lc'.id lc'.ecu := by
    intro lc' hl' hid
    rw [hpub, PubOk, assocGet_assocSet, if_pos hid]
    exact ⟨lc, rfl, (hi.map.uniq lc' lc hl' hlive hid).symm⟩
  have hi1 : LInv (s.confirmed lc) :=
    { map := hi.map, msgs := hi.msgs, pend := rfl, vis := hi.vis
      pub := by
        intro lc' hl' hnb
        by_cases hid : lc'.id = lc.id
        · exact hself lc' hl' hid
        · rw [hpub, PubOk, assocGet_assocSet, if_neg hid]
          exact hi.pub lc' hl' fun hmem => hnb ((List.mem_erase_of_ne hid).mpr hmem) }
  refine linv_delivered _ hi1 pre tr post (fun m hm => hi.msgs m (r.split ▸ List.mem_append_right _ hm)) fun m hm => ?_
  have hok := hi.msgs m (r.split ▸ List.mem_append_left _ hm)
  rcases r.preFree m hm with h | h
  · obtain ⟨lc', hl', hid', hecu'⟩ := hok
    exact hid' ▸ hecu' ▸ hself lc' hl' (hid'.trans h)
  · exact pubOk_of_msg _ hi1 m hok h

theorem confirm_linv (s : St) (m : Msg) (hi : LInv s) : LInv (s.confirm m) :=
  confirm_inv s m hi (fun t lc pre post tr hl ht r => released_linv t lc pre post tr ht hl r)
    (fun _ _ h => ⟨h.map, h.msgs, h.pub, h.pend, h.vis⟩)

/-! ### replacing one ECU's lifecycle list -/

theorem oldList_live (em : List (Nat × List Lc)) (e : Nat) (lc : Lc) (h : lc ∈ oldList em e) : Live em lc := by
  unfold oldList at h
  cases hg : assocGet e em with
  | none => simp [hg] at h
  | some L => simp [hg] at h; exact ⟨(e, L), assocGet_mem e L em hg, h⟩

theorem live_oldList (em : List (Nat × List Lc)) (n e : Nat) (hm : MapInv em n) (lc : Lc) (h : Live em lc)
    (he : lc.ecu = e) : lc ∈ oldList em e := by
  obtain ⟨p, hp, hlc⟩ := h
  have hk := hm.ecuKey p hp lc hlc
  obtain ⟨a, L⟩ := p
  simp only at hk hlc
  have : a = e := by rw [← hk, he]
  subst this
  unfold oldList
  rw [mem_assocGet a L em hm.keysNodup hp]; simpa using hlc

theorem live_setEcu (em : List (Nat × List Lc)) (n e : Nat) (hm : MapInv em n) (lcs' : List Lc) (lc : Lc) :
    Live (assocSet e lcs' em) lc ↔ lc ∈ lcs' ∨ (Live em lc ∧ lc.ecu ≠ e) := by
  unfold Live
  constructor
  · rintro ⟨p, hp, hlc⟩
    rw [mem_assocSet e lcs' em hm.keysNodup] at hp
    rcases hp with h | ⟨h, hne⟩
    · subst h; exact Or.inl hlc
    · right
      exact ⟨⟨p, h, hlc⟩, (hm.ecuKey p h lc hlc).symm ▸ hne⟩
  · rintro (h | ⟨⟨p, hp, hlc⟩, hne⟩)
    · exact ⟨(e, lcs'), (mem_assocSet e lcs' em hm.keysNodup _).mpr (Or.inl rfl), h⟩
    · exact ⟨p, (mem_assocSet e lcs' em hm.keysNodup _).mpr (Or.inr ⟨hp, hm.ecuKey p hp lc hlc ▸ hne⟩), hlc⟩

theorem oldList_ecu (em : List (Nat × List Lc)) (n e : Nat) (hm : MapInv em n) (a0 : Lc) (h : a0 ∈ oldList em e) :
    a0.ecu = e := by
  unfold oldList at h
  cases hg : assocGet e em with
  | none => simp [hg] at h
  | some L => simp [hg] at h; exact hm.ecuKey (e, L) (assocGet_mem e L em hg) a0 h

theorem oldList_mem (em : List (Nat × List Lc)) (n e : Nat) (hm : MapInv em n) {L : List Lc} (hold : oldList em e = L) {a : Lc}
    (ha : a ∈ L) : Live em a ∧ a.ecu = e :=
  ⟨oldList_live em e a (hold ▸ ha), oldList_ecu em n e hm a (hold ▸ ha)⟩

theorem oldList_nodup (em : List (Nat × List Lc)) (n : Nat) (hm : MapInv em n) (e : Nat) : ((oldList em e).map (·.id)).Nodup := by
  unfold oldList
  cases hg : assocGet e em with
  | none => exact .nil
  | some L => exact hm.idsNodup (e, L) (assocGet_mem e L _ hg)

/-- The last lifecycles `old` of ECU `e` give way to the one lifecycle `x`, which keeps the id of one of them or gets a
    fresh one (`hid`): the map stays well-formed, and its live lifecycles are `x` and the former ones whose id is none of `old` -
    as a table keyed by the ids, the map is updated at `x.id` and loses the other ids of `old`. -/
theorem tail_replaced (em : List (Nat × List Lc)) (n n' e : Nat) (hm : MapInv em n) (pre old : List Lc) (x : Lc)
    (hold : oldList em e = pre ++ old) (hecu : x.ecu = e) (hn : n ≤ n')
    (hid : (∃ o ∈ old, o.id = x.id) ∨ n ≤ x.id ∧ x.id < n') :
    MapInv (assocSet e (pre ++ [x]) em) n' ∧
    ∀ lc, Live (assocSet e (pre ++ [x]) em) lc ↔ lc = x ∨ Live em lc ∧ ∀ o ∈ old, lc.id ≠ o.id := by
  have hmem := fun a ha => oldList_mem em n e hm hold (a := a) ha
  have hnd := oldList_nodup em n hm e
  rw [hold, List.map_append, List.nodup_append] at hnd
  -- the lifecycles in front stay, and share no id with `old`
  have hpre : ∀ lc ∈ pre, Live em lc ∧ ∀ o ∈ old, lc.id ≠ o.id := fun lc h =>
    ⟨(hmem lc (List.mem_append_left _ h)).1, fun o ho =>
      hnd.2.2 lc.id (List.mem_map.mpr ⟨lc, h, rfl⟩) o.id (List.mem_map.mpr ⟨o, ho, rfl⟩)⟩
  have hiff : ∀ lc, Live (assocSet e (pre ++ [x]) em) lc ↔ lc = x ∨ Live em lc ∧ ∀ o ∈ old, lc.id ≠ o.id := by
    intro lc
    rw [live_setEcu em n e hm, List.mem_append, List.mem_singleton]
    constructor
    · rintro ((h | h) | ⟨h, hne⟩)
      · exact .inr (hpre lc h)
      · exact .inl h
      · -- a lifecycle of another ECU shares no id with the list
        refine .inr ⟨h, fun o ho hc => hne ?_⟩
        obtain ⟨h1, h2⟩ := hmem o (List.mem_append_right _ ho)
        exact (hm.uniq lc o h h1 hc).trans h2
    · rintro (h | ⟨h, hne⟩)
      · exact .inl (.inr h)
      · by_cases he : lc.ecu = e
        · have := live_oldList em n e hm lc h he
          rw [hold] at this
          exact (List.mem_append.mp this).elim (fun h => .inl (.inl h)) fun h => absurd rfl (hne lc h)
        · exact .inr ⟨h, he⟩
  -- `x` shares no id with a lifecycle that stays
  have hx : ∀ lc, Live em lc → (∀ o ∈ old, lc.id ≠ o.id) → lc.id ≠ x.id := by
    intro lc hl hne hc
    rcases hid with ⟨o, ho, e0⟩ | ⟨h1, _⟩
    · exact hne o ho (hc.trans e0.symm)
    · exact Nat.lt_irrefl _ (Nat.lt_of_lt_of_le (hc ▸ hm.fresh lc hl) h1)
  refine ⟨⟨keys_assocSet_nodup e _ em hm.keysNodup, ?_, ?_, ?_, ?_⟩, hiff⟩
  · intro p hp lc hlc
    rcases mem_assocSet_weak e _ em p hp with rfl | h
    · rcases List.mem_append.mp hlc with h | h
      · exact (hmem lc (List.mem_append_left _ h)).2
      · exact (List.mem_singleton.mp h).symm ▸ hecu
    · exact hm.ecuKey p h lc hlc
  · intro lc hl
    rcases (hiff lc).mp hl with rfl | ⟨h, _⟩
    · rcases hid with ⟨o, ho, e0⟩ | ⟨_, h2⟩
      · exact e0 ▸ Nat.lt_of_lt_of_le (hm.fresh o (hmem o (List.mem_append_right _ ho)).1) hn
      · exact h2
    · exact Nat.lt_of_lt_of_le (hm.fresh lc h) hn
  · intro a b ha hb heq
    rcases (hiff a).mp ha with rfl | ⟨ha0, hna⟩ <;> rcases (hiff b).mp hb with rfl | ⟨hb0, hnb⟩
    · rfl
    · exact absurd heq.symm (hx b hb0 hnb)
    · exact absurd heq (hx a ha0 hna)
    · exact hm.uniq a b ha0 hb0 heq
  · intro p hp
    rcases mem_assocSet_weak e _ em p hp with rfl | h
    · rw [List.map_append, List.map_singleton]
      refine List.nodup_append.mpr ⟨hnd.1, List.pairwise_singleton _ _, fun a ha b hb => ?_⟩
      obtain ⟨lc, hlc, rfl⟩ := List.mem_map.mp ha
      rw [List.mem_singleton.mp hb]
      exact hx lc (hpre lc hlc).1 (hpre lc hlc).2
    · exact hm.idsNodup p h

/-- a lifecycle with the next id is appended -/
theorem live_append (em : List (Nat × List Lc)) (n e : Nat) (hm : MapInv em n) (N : Lc) (hN : N.id = n) (hNe : N.ecu = e) :
    MapInv (assocSet e (oldList em e ++ [N]) em) (n + 1) ∧
    ∀ lc, Live (assocSet e (oldList em e ++ [N]) em) lc ↔ lc = N ∨ Live em lc := by
  obtain ⟨hmap, hiff⟩ := tail_replaced em n (n + 1) e hm _ [] N (List.append_nil _).symm hNe (Nat.le_succ _)
    (.inr ⟨Nat.le_of_eq hN.symm, hN ▸ Nat.lt_succ_self _⟩)
  exact ⟨hmap, fun lc => (hiff lc).trans (or_congr_right (and_iff_left (List.forall_mem_nil _)))⟩

/-- Where a lifecycle `lc` that is live after `live_update_last` comes from: `lc0`, live before with the same id and ECU -
    `lc` itself, or `prev` if `lc` is `P` - and that id is none of `drop`. -/
structure Origin (em : List (Nat × List Lc)) (prev P : Lc) (drop : List Lc) (lc lc0 : Lc) : Prop where
  live : Live em lc0
  id : lc0.id = lc.id
  ecu : lc0.ecu = lc.ecu
  kept : ∀ d ∈ drop, lc.id ≠ d.id
  same : lc0 = lc ∧ lc.id ≠ prev.id ∨ lc0 = prev ∧ lc = P

/-- What `live_update_last` says of the new map `em'`: it is well-formed, `P` is live, every live lifecycle has an origin,
    and an id that was live on an ECU stays so, unless it is one of `drop`. -/
structure Updated (em em' : List (Nat × List Lc)) (n e : Nat) (prev P : Lc) (drop : List Lc) : Prop where
  map : MapInv em' n
  live : Live em' P
  old : ∀ a ∈ prev :: drop, Live em a ∧ a.ecu = e
  orig : ∀ lc, Live em' lc → ∃ lc0, Origin em prev P drop lc lc0
  succ : ∀ i c, (∃ lc0, Live em lc0 ∧ lc0.id = i ∧ lc0.ecu = c) → (∀ d ∈ drop, i ≠ d.id) →
    ∃ lc, Live em' lc ∧ lc.id = i ∧ lc.ecu = c

/-- The list of ECU `e` is `pre ++ prev :: drop` and becomes `pre ++ [P]`, with `P` carrying the id and ECU of `prev`
    (`drop` is empty, or the one lifecycle merged into `prev`). -/
theorem live_update_last (em : List (Nat × List Lc)) (n : Nat) (hm : MapInv em n) (e : Nat) (pre : List Lc) (prev : Lc)
    (drop : List Lc) (P : Lc) (hold : oldList em e = pre ++ prev :: drop) (hid : P.id = prev.id) (hecu : P.ecu = prev.ecu) :
    Updated em (assocSet e (pre ++ [P]) em) n e prev P drop := by
  have hmem := fun a ha => oldList_mem em n e hm hold (a := a) (List.mem_append_right _ ha)
  obtain ⟨hprevL, hprevE⟩ := hmem prev List.mem_cons_self
  obtain ⟨hmap, hiff⟩ := tail_replaced em n n e hm pre (prev :: drop) P hold (hecu.trans hprevE) (Nat.le_refl _)
    (.inl ⟨prev, List.mem_cons_self, hid.symm⟩)
  have hnd := oldList_nodup em n hm e
  rw [hold, List.map_append, List.map_cons, List.nodup_append, List.nodup_cons] at hnd
  refine ⟨hmap, (hiff P).mpr (.inl rfl), hmem, fun lc hl => ?_, ?_⟩
  · rcases (hiff lc).mp hl with rfl | ⟨h, hne⟩
    · exact ⟨prev, hprevL, hid.symm, hecu.symm, fun d hd hc => hnd.2.1.1 (hid ▸ hc ▸ List.mem_map.mpr ⟨d, hd, rfl⟩),
        .inr ⟨rfl, rfl⟩⟩
    · exact ⟨lc, h, rfl, rfl, fun d hd => hne d (List.mem_cons_of_mem _ hd), .inl ⟨rfl, hne prev List.mem_cons_self⟩⟩
  · rintro _ _ ⟨lc0, hl0, rfl, rfl⟩ hd
    by_cases hp : lc0.id = prev.id
    · exact ⟨P, (hiff P).mpr (.inl rfl), hid.trans hp.symm, hecu.trans (hm.uniq lc0 prev hl0 hprevL hp).symm⟩
    · exact ⟨lc0, (hiff lc0).mpr (.inr ⟨hl0, fun o ho => (List.mem_cons.mp ho).elim (fun e => e ▸ hp) (hd o)⟩), rfl, rfl⟩

/-- After a merge (`drop` is `[last]`) the messages of live lifecycles are still so once relabelled: those of `last` now
    carry the id of `P`, which is on their ECU. -/
theorem Updated.msgOk {em em' : List (Nat × List Lc)} {n e : Nat} {prev last P : Lc} (u : Updated em em' n e prev P [last])
    (hm : MapInv em n) (hid : P.id = prev.id) (hecu : P.ecu = prev.ecu) {Q : List Msg} (h : ∀ m ∈ Q, MsgOk em m) :
    ∀ m ∈ relabel last.id prev.id Q, MsgOk em' m := by
  intro m hmm
  obtain ⟨m0, hm0, rfl⟩ := List.mem_map.mp (relabel_eq_map .. ▸ hmm)
  obtain ⟨lc, hl, hid0, hecu0⟩ := h m0 hm0
  obtain ⟨hlastL, hlastE⟩ := u.old last (List.mem_cons_of_mem _ List.mem_cons_self)
  rw [MsgOk, rel1_lc, rel1_ecu]
  by_cases hc : m0.lc = last.id
  · rw [if_pos hc]
    exact ⟨P, u.live, hid, by
      rw [hecu, (u.old prev List.mem_cons_self).2, ← hecu0, hm.uniq lc last hl hlastL (hid0.trans hc), hlastE]⟩
  · rw [if_neg hc]
    exact u.succ _ _ ⟨lc, hl, hid0, hecu0⟩ (List.forall_mem_singleton.mpr hc)

theorem linv_append (s : St) (hi : LInv s) (e : Nat) (N : Lc) (hN : N.id = s.nextId) (hNe : N.ecu = e) :
    LInv (setEcu { s with nextId := s.nextId + 1, bufLcs := s.bufLcs ++ [s.nextId] } e (oldList s.ecuMap e ++ [N])) ∧
    Live (assocSet e (oldList s.ecuMap e ++ [N]) s.ecuMap) N := by
  obtain ⟨hmap, hlive⟩ := live_append s.ecuMap s.nextId e hi.map N hN hNe
  refine ⟨{ map := hmap, msgs := fun m hmm => ?_, pub := fun lc hl hnb => ?_, pend := hi.pend, vis := hi.vis },
    (hlive N).mpr (.inl rfl)⟩
  · exact (hi.msgs m hmm).imp fun lc hl => ⟨(hlive lc).mpr (.inr hl.1), hl.2⟩
  · rcases (hlive lc).mp hl with rfl | hl0
    · exact absurd (List.mem_append_right _ (List.mem_singleton.mpr hN)) hnb
    · exact hi.pub lc hl0 fun hb => hnb (List.mem_append_left _ hb)

theorem linv_keep (s : St) (hi : LInv s) (e : Nat) (pre : List Lc) (last r : Lc) (hold : oldList s.ecuMap e = pre ++ [last])
    (h1 : r.id = last.id) (h2 : r.ecu = last.ecu) :
    LInv (setEcu s e (pre ++ [r])) ∧ Live (assocSet e (pre ++ [r]) s.ecuMap) r := by
  have u := live_update_last s.ecuMap s.nextId hi.map e pre last [] r hold h1 h2
  refine ⟨{ map := u.map, msgs := fun m hmm => ?_, pub := fun lc hl hnb => ?_, pend := hi.pend, vis := hi.vis }, u.live⟩
  · exact u.succ _ _ (hi.msgs m hmm) (List.forall_mem_nil _)
  · obtain ⟨lc0, o⟩ := u.orig lc hl
    rw [← o.id, ← o.ecu]
    exact hi.pub lc0 o.live (o.id ▸ hnb)

theorem linv_merge (s : St) (hi : LInv s) (e : Nat) (pre : List Lc) (prev last P : Lc)
    (hold : oldList s.ecuMap e = pre ++ [prev, last]) (hid : P.id = prev.id) (hecu : P.ecu = prev.ecu) :
    LInv (s.merged last.id prev.id e (pre ++ [P])) ∧ Live (assocSet e (pre ++ [P]) s.ecuMap) P ∧ P.ecu = e := by
  have u := live_update_last s.ecuMap s.nextId hi.map e pre prev [last] P hold hid hecu
  refine ⟨{ map := u.map, msgs := u.msgOk hi.map hid hecu hi.msgs, pub := fun lc hl hnb => ?_, pend := ?_, vis := hi.vis },
    u.live, hecu.trans (u.old prev List.mem_cons_self).2⟩
  · -- the origin of a confirmed lifecycle was confirmed; its entry is not the one of `last`, which may have been erased
    obtain ⟨lc0, o⟩ := u.orig lc hl
    have hne : lc0.id ≠ last.id := o.id ▸ o.kept last List.mem_cons_self
    obtain ⟨l, h1, h2⟩ := hi.pub lc0 o.live fun hb => hnb (o.id ▸ (List.mem_erase_of_ne hne).mpr hb)
    rw [← o.id, ← o.ecu]
    refine ⟨l, ?_, h2⟩
    rw [merged_published _ _ _ _ _ hi.pend]
    split
    · exact h1
    · rw [assocGet_assocErase, if_neg hne]; exact h1
  · exact merged_pending _ _ _ _ _ hi.pend

theorem assign_linv (s : St) (hi : LInv s) (m : Msg) :
    LInv (s.assign m).1 ∧ MsgOk (s.assign m).1.ecuMap (s.assign m).2 := by
  cases assign_cases s m with
  | append N eq h1 h2 =>
    rw [eq]
    obtain ⟨k1, k3⟩ := linv_append s hi m.ecu N h1 h2
    exact ⟨k1, N, k3, h1, h2⟩
  | keep pre last r eq hL h1 h2 =>
    rw [eq]
    obtain ⟨k1, k3⟩ := linv_keep s hi m.ecu pre last r hL h1 h2
    exact ⟨k1, r, k3, h1, h2.trans (oldList_ecu _ _ _ hi.map last (hL ▸ List.mem_append_right _ List.mem_cons_self))⟩
  | merge pre prev last r eq hL =>
    rw [eq]
    obtain ⟨k1, k2, k3⟩ := linv_merge s hi m.ecu pre prev last (prev.merge r) hL (merge_facts prev r).1 (merge_facts prev r).2
    rcases mergeTail_cases s last.id prev.id m.ecu (pre ++ [prev.merge r]) with ⟨e, _⟩ | ⟨hb, tr, _, e⟩ <;> rw [e]
    · exact ⟨k1, _, k2, (merge_facts prev r).1, k3⟩
    · exact ⟨linv_delivered _ k1 _ tr [] (List.forall_mem_nil _) fun x hx => pubOk_of_msg _ k1 x (k1.msgs x hx) (hb ▸ List.not_mem_nil),
        _, k2, (merge_facts prev r).1, k3⟩

theorem deliver_linv (s : St) (hi : LInv s) (m : Msg) (hm : MsgOk s.ecuMap m) : LInv (s.deliver m) := by
  rcases deliver_eq s m with ⟨_, e⟩ | ⟨hb, e⟩ <;> rw [e]
  · exact { map := hi.map, pub := hi.pub, pend := hi.pend, vis := hi.vis
            msgs := List.forall_mem_append.mpr ⟨hi.msgs, List.forall_mem_singleton.mpr hm⟩ }
  · refine linv_delivered s hi [m] _ _ hi.msgs fun x hx => ?_
    rw [List.mem_singleton.mp hx]
    exact pubOk_of_msg s hi m hm (hb ▸ List.not_mem_nil)

theorem init_linv : LInv ({} : St) :=
  { map := ⟨List.nodup_nil, List.forall_mem_nil _, fun _ h => (not_live_nil _ h).elim, fun _ _ h => (not_live_nil _ h).elim, List.forall_mem_nil _⟩
    msgs := List.forall_mem_nil _, pub := fun _ h => (not_live_nil _ h).elim, pend := rfl, vis := List.forall_mem_nil _ }

theorem step_linv (s : St) (hi : LInv s) (m : Msg) : LInv (s.step m) := by
  obtain ⟨a1, a2⟩ := assign_linv s hi m
  exact step_inv s m hi (deliver_linv _ (confirm_linv _ _ a1) _ ((confirm_ecuMap ..).symm ▸ a2))

theorem steps_linv (ms : List Msg) (s : St) (hi : LInv s) : LInv (ms.foldl St.step s) :=
  foldl_inv (fun t m _ ht => step_linv t ht m) hi

structure SameButPending (a b : St) : Prop where
  ecuMap : b.ecuMap = a.ecuMap
  nextId : b.nextId = a.nextId
  bufLcs : b.bufLcs = a.bufLcs
  bufMsgs : b.bufMsgs = a.bufMsgs
  published : b.published = a.published
  out : b.out = a.out

theorem mem_entriesOf (P : Lc → Bool) (em : List (Nat × List Lc)) (kv : Nat × Lc) :
    kv ∈ entriesOf P em ↔ kv.1 = kv.2.id ∧ Live em kv.2 ∧ P kv.2 = true := by
  unfold entriesOf Live
  simp only [List.mem_flatMap, List.mem_map, List.mem_filter, List.mem_reverse]
  constructor
  · rintro ⟨p, hp, lc, ⟨hlc, hP⟩, rfl⟩
    exact ⟨rfl, ⟨p, hp, hlc⟩, hP⟩
  · rintro ⟨h1, ⟨p, hp, hlc⟩, hP⟩
    exact ⟨p, hp, kv.2, ⟨hlc, hP⟩, Prod.ext h1.symm rfl⟩

theorem finish_vis (s : St) (hi : LInv s) (hnp : s.panicked = false) : ∀ o ∈ s.finish.out, o.visible = true := by
  obtain ⟨tr, _, _, e⟩ := finish_eq s hnp
  rw [hi.pend, List.nil_append] at e
  rw [e]
  refine vis_delivered _ _ _ hi.vis fun m hm => ?_
  obtain ⟨lc, hl, hid, hecu⟩ := hi.msgs m hm
  rw [← hid, ← hecu]
  -- the buffered lifecycles have just been published; an entry under the id of `lc` is a lifecycle of its ECU
  rcases assocGet_foldl_assocSet lc.id (entriesOf (fun lc => s.bufLcs.contains lc.id) s.ecuMap) s.published with
    ⟨v, hv, e'⟩ | ⟨hn, e'⟩
  · obtain ⟨a1, a2, _⟩ := (mem_entriesOf _ _ _).mp hv
    exact ⟨v, e', hi.map.uniq v lc a2 hl a1.symm⟩
  · obtain ⟨l, h1, h2⟩ := hi.pub lc hl fun hb => hn lc ((mem_entriesOf _ _ _).mpr ⟨rfl, hl, List.contains_iff_mem.mpr hb⟩)
    exact ⟨l, e'.trans h1, h2⟩

/-- C06: every delivered message's lifecycle is, at the moment of delivery, already
    visible in the published table with the message's ECU — for every message stream. -/
theorem C06_published_first (ms : List Msg) : ∀ o ∈ (run ms).out, o.visible = true :=
  finish_vis _ (steps_linv ms {} init_linv) (steps_panicked ms {})

#print axioms C06_published_first
end Lcm
