import Adlt.Lc.Model
/-! Insertion-ordered association lists keyed by `Nat` (`assocGet` / `assocSet` / `assocErase` of the model):
    what a lookup returns after an update, and which entries and keys an update leaves. -/
namespace Lcm

def keys {α} (l : List (Nat × α)) : List Nat := l.map (·.1)

variable {α : Type}

theorem assocGet_cons (k : Nat) (p : Nat × α) (t : List (Nat × α)) :
    assocGet k (p :: t) = if p.1 = k then some p.2 else assocGet k t :=
  ite_congr (Nat.beq_eq_true_eq p.1 k) (fun _ => rfl) fun _ => rfl

theorem assocSet_cons (k : Nat) (v : α) (p : Nat × α) (t : List (Nat × α)) :
    assocSet k v (p :: t) = if p.1 = k then (k, v) :: t else p :: assocSet k v t :=
  ite_congr (Nat.beq_eq_true_eq p.1 k) (fun _ => rfl) fun _ => rfl

theorem assocErase_cons (k : Nat) (p : Nat × α) (t : List (Nat × α)) :
    assocErase k (p :: t) = if p.1 = k then assocErase k t else p :: assocErase k t :=
  ite_congr (Nat.beq_eq_true_eq p.1 k) (fun _ => rfl) fun _ => rfl

theorem assocGet_assocSet (k k' : Nat) (v : α) (l : List (Nat × α)) :
    assocGet k' (assocSet k v l) = if k' = k then some v else assocGet k' l := by
  induction l with
  | nil => exact (assocGet_cons k' (k, v) []).trans (ite_congr (propext eq_comm) (fun _ => rfl) fun _ => rfl)
  | cons p t ih =>
    rw [assocSet_cons, assocGet_cons]
    by_cases hp : p.1 = k
    · rw [if_pos hp, assocGet_cons]
      by_cases h : k' = k
      · simp [h]
      · simp [h, Ne.symm h, hp]
    · rw [if_neg hp, assocGet_cons, ih]
      by_cases h : p.1 = k'
      · subst h; simp [hp]
      · simp [h]

theorem assocGet_assocErase (k k' : Nat) (l : List (Nat × α)) :
    assocGet k' (assocErase k l) = if k' = k then none else assocGet k' l := by
  induction l with
  | nil => exact (ite_self _).symm
  | cons p t ih =>
    rw [assocErase_cons, assocGet_cons]
    by_cases hp : p.1 = k
    · rw [if_pos hp, ih]
      by_cases h : k' = k
      · simp [h]
      · simp [h, Ne.symm h, hp]
    · rw [if_neg hp, assocGet_cons, ih]
      by_cases h : p.1 = k'
      · subst h; simp [hp]
      · simp [h]

theorem assocGet_mem (k : Nat) (v : α) (l : List (Nat × α)) (h : assocGet k l = some v) : (k, v) ∈ l := by
  fun_induction assocGet k l with
  | case1 => cases h
  | case2 k' v' t hk => cases h; exact beq_iff_eq.mp hk ▸ List.mem_cons_self
  | case3 k' v' t hk ih => exact List.mem_cons_of_mem _ (ih h)

theorem mem_keys_of_mem {p : Nat × α} {l : List (Nat × α)} (h : p ∈ l) : p.1 ∈ keys l := List.mem_map.mpr ⟨p, h, rfl⟩

theorem mem_assocGet (k : Nat) (v : α) (l : List (Nat × α)) (hn : (keys l).Nodup) (h : (k, v) ∈ l) :
    assocGet k l = some v := by
  induction l with
  | nil => cases h
  | cons p t ih =>
    rw [keys, List.map_cons, List.nodup_cons] at hn
    rw [assocGet_cons]
    rcases List.mem_cons.mp h with h | h
    · rw [← h, if_pos rfl]
    · rw [if_neg (fun e : p.1 = k => hn.1 (e ▸ mem_keys_of_mem h)), ih hn.2 h]

theorem mem_assocSet_weak (k : Nat) (v : α) (l : List (Nat × α)) (p : Nat × α) (h : p ∈ assocSet k v l) :
    p = (k, v) ∨ p ∈ l := by
  fun_induction assocSet k v l with
  | case1 => exact .inl (List.mem_singleton.mp h)
  | case2 k' v' t hk => exact (List.mem_cons.mp h).imp_right (List.mem_cons_of_mem _)
  | case3 k' v' t hk ih =>
    exact (List.mem_cons.mp h).elim (fun e => .inr (e ▸ List.mem_cons_self)) fun h => (ih h).imp_right (List.mem_cons_of_mem _)

theorem mem_iff_assocGet {l : List (Nat × α)} (hn : (keys l).Nodup) (p : Nat × α) : p ∈ l ↔ assocGet p.1 l = some p.2 :=
  ⟨mem_assocGet p.1 p.2 l hn, assocGet_mem p.1 p.2 l⟩

theorem assocErase_eq_filter (k : Nat) (l : List (Nat × α)) : assocErase k l = l.filter (·.1 != k) := by
  induction l with
  | nil => rfl
  | cons p t ih =>
    rw [assocErase_cons, ih, List.filter_cons]
    by_cases hp : p.1 = k <;> simp [hp]

theorem mem_assocErase (k : Nat) (l : List (Nat × α)) (p : Nat × α) : p ∈ assocErase k l ↔ p ∈ l ∧ p.1 ≠ k := by
  rw [assocErase_eq_filter, List.mem_filter, bne_iff_ne]

theorem keys_assocSet (k : Nat) (v : α) (l : List (Nat × α)) :
    keys (assocSet k v l) = if k ∈ keys l then keys l else keys l ++ [k] := by
  induction l with
  | nil => exact (if_neg List.not_mem_nil).symm
  | cons q t ih =>
    rw [assocSet_cons]
    by_cases hq : q.1 = k
    · rw [if_pos hq, if_pos (show k ∈ keys (q :: t) from hq ▸ List.mem_cons_self)]
      exact congrArg (· :: keys t) hq.symm
    · rw [if_neg hq, keys, List.map_cons, ← keys, ih]
      have : k ∈ keys (q :: t) ↔ k ∈ keys t :=
        ⟨fun h => (List.mem_cons.mp h).resolve_left (Ne.symm hq), List.mem_cons_of_mem _⟩
      by_cases hk : k ∈ keys t
      · rw [if_pos hk, if_pos (this.mpr hk)]; rfl
      · rw [if_neg hk, if_neg (fun h => hk (this.mp h))]; rfl

theorem keys_assocSet_nodup (k : Nat) (v : α) (l : List (Nat × α)) (hn : (keys l).Nodup) : (keys (assocSet k v l)).Nodup := by
  rw [keys_assocSet]
  split
  · exact hn
  · rename_i hk
    exact List.nodup_append.mpr ⟨hn, List.nodup_cons.mpr ⟨List.not_mem_nil, List.nodup_nil⟩, fun a ha b hb => by
      rw [List.mem_singleton.mp hb]; exact fun e => hk (e ▸ ha)⟩

theorem mem_assocSet (k : Nat) (v : α) (l : List (Nat × α)) (hn : (keys l).Nodup) (p : Nat × α) :
    p ∈ assocSet k v l ↔ p = (k, v) ∨ (p ∈ l ∧ p.1 ≠ k) := by
  rw [mem_iff_assocGet (keys_assocSet_nodup k v l hn), mem_iff_assocGet hn, assocGet_assocSet]
  obtain ⟨a, b⟩ := p
  by_cases h : a = k
  · simp [h, eq_comm]
  · simp [h, Prod.ext_iff]

theorem keys_assocErase (k : Nat) (l : List (Nat × α)) : keys (assocErase k l) = (keys l).filter (· != k) := by
  rw [assocErase_eq_filter, keys, keys, List.filter_map]; rfl

theorem keys_assocErase_nodup (k : Nat) (l : List (Nat × α)) (hn : (keys l).Nodup) : (keys (assocErase k l)).Nodup := by
  rw [keys_assocErase]; exact hn.filter _

theorem assocGet_foldl_assocSet (k : Nat) (P : List (Nat × α)) : ∀ l : List (Nat × α),
    (∃ v, (k, v) ∈ P ∧ assocGet k (P.foldl (fun acc kv => assocSet kv.1 kv.2 acc) l) = some v) ∨
    ((∀ v, (k, v) ∉ P) ∧ assocGet k (P.foldl (fun acc kv => assocSet kv.1 kv.2 acc) l) = assocGet k l) := by
  induction P with
  | nil => exact fun l => .inr ⟨by simp, rfl⟩
  | cons kv t ih =>
    intro l
    rcases ih (assocSet kv.1 kv.2 l) with ⟨v, hv, e⟩ | ⟨hn, e⟩
    · exact .inl ⟨v, List.mem_cons_of_mem _ hv, e⟩
    · rw [assocGet_assocSet] at e
      by_cases hk : k = kv.1
      · exact .inl ⟨kv.2, by rw [hk]; exact List.mem_cons_self, e.trans (if_pos hk)⟩
      · exact .inr ⟨fun v hv => (List.mem_cons.mp hv).elim (fun h => hk (congrArg Prod.fst h)) (hn v),
          e.trans (if_neg hk)⟩

theorem keys_foldl_assocSet_nodup (P : List (Nat × α)) : ∀ l : List (Nat × α), (keys l).Nodup →
    (keys (P.foldl (fun acc kv => assocSet kv.1 kv.2 acc) l)).Nodup := by
  induction P with
  | nil => exact fun _ h => h
  | cons kv t ih => exact fun l h => ih _ (keys_assocSet_nodup _ _ _ h)

theorem mem_foldl_assocSet (P : List (Nat × α)) : ∀ l : List (Nat × α),
    ∀ x ∈ P.foldl (fun acc kv => assocSet kv.1 kv.2 acc) l, x ∈ l ∨ x ∈ P := by
  induction P with
  | nil => exact fun _ x hx => .inl hx
  | cons kv t ih =>
    intro l x hx
    rcases ih _ x hx with h1 | h1
    · exact ((mem_assocSet_weak kv.1 kv.2 l x h1).imp_left fun h2 => h2 ▸ List.mem_cons_self).symm
    · exact .inr (List.mem_cons_of_mem _ h1)

section
variable {α β : Type} {g : Nat → Nat} (hg : ∀ a b, g a = g b → a = b) (h : α → β)
include hg

theorem beq_inj (a b : Nat) : (g a == g b) = (a == b) :=
  Bool.eq_iff_iff.mpr ⟨fun e => beq_iff_eq.mpr (hg a b (beq_iff_eq.mp e)), fun e => beq_iff_eq.mpr (congrArg g (beq_iff_eq.mp e))⟩

theorem assocGet_map (k : Nat) (l : List (Nat × α)) :
    assocGet (g k) (l.map fun p => (g p.1, h p.2)) = (assocGet k l).map h := by
  induction l with
  | nil => rfl
  | cons p t ih => simp only [List.map_cons, assocGet, beq_inj hg, ih, apply_ite (Option.map h), Option.map_some]

theorem assocSet_map (k : Nat) (v : α) (l : List (Nat × α)) :
    assocSet (g k) (h v) (l.map fun p => (g p.1, h p.2)) = (assocSet k v l).map fun p => (g p.1, h p.2) := by
  induction l with
  | nil => rfl
  | cons p t ih => simp only [List.map_cons, assocSet, beq_inj hg, ih, apply_ite (List.map _)]

theorem assocErase_map (k : Nat) (l : List (Nat × α)) :
    assocErase (g k) (l.map fun p => (g p.1, h p.2)) = (assocErase k l).map fun p => (g p.1, h p.2) := by
  induction l with
  | nil => rfl
  | cons p t ih => simp only [List.map_cons, assocErase, beq_inj hg, ih, apply_ite (List.map _)]

end

end Lcm
