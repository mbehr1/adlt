import Adlt.Lc.Boots
import Adlt.Lc.Labels
/-! C08, whole trace (part C): a clean trace inside the claimed region, from the first message to the end of the stream. -/
namespace Lcm

theorem step8 (s : St) (G : Nat → List Rec) (m : Msg) (b : Nat) (hI : Inv8 s G) (hF : Fits G m b) (hp : s.panicked = false)
    (hok : s.ok) :
    Inv8 (s.step m) (addTo G m b s.nextId) ∧
    (s.step m).seqL = s.seqL ++ [{ m with lc := headId (addTo G m b s.nextId) m.ecu }] ∧ (s.step m).ok ∧ (s.step m).panicked = false := by
  obtain ⟨a1, a2, a3⟩ := assign8 s G m b hI hF
  obtain ⟨l1, l2⟩ := step_L s m hok
  have hp' := (step_panicked s m).trans hp
  rw [step_eq s m hp] at hp' ⊢
  refine ⟨a1.of_ecuMap (by rw [deliver_ecuMap, confirm_ecuMap]), ?_, l2, hp'⟩
  rw [l1, a2]
  unfold St.seqL St.outL
  rw [a3.out, a3.bufMsgs]

/-- every message fits the boots seen before it. The state is threaded only because a record stores the id of its lifecycle
    (`s.nextId`); `Fits` reads boot numbers, starts and largest timestamps, never ids, so this is a condition on the input. -/
def FitsAll : St → (Nat → List Rec) → List (Msg × Nat) → Prop
  | _, _, [] => True
  | s, G, (m, b) :: t => Fits G m b ∧ FitsAll (s.step m) (addTo G m b s.nextId) t

/-- the boots after the whole stream -/
def finalG : St → (Nat → List Rec) → List (Msg × Nat) → (Nat → List Rec)
  | _, G, [] => G
  | s, G, (m, b) :: t => finalG (s.step m) (addTo G m b s.nextId) t

/-- the input messages, each labelled with the lifecycle id of its boot -/
def labels8 : St → (Nat → List Rec) → List (Msg × Nat) → List Msg
  | _, _, [] => []
  | s, G, (m, b) :: t => { m with lc := headId (addTo G m b s.nextId) m.ecu } :: labels8 (s.step m) (addTo G m b s.nextId) t

theorem steps8 (mbs : List (Msg × Nat)) : ∀ (s : St) (G : Nat → List Rec), Inv8 s G → FitsAll s G mbs → s.panicked = false → s.ok →
    Inv8 ((mbs.map (·.1)).foldl St.step s) (finalG s G mbs) ∧
    ((mbs.map (·.1)).foldl St.step s).seqL = s.seqL ++ labels8 s G mbs ∧ ((mbs.map (·.1)).foldl St.step s).panicked = false := by
  intro s G
  -- `FitsAll`, `finalG` and `labels8` recurse alike, from `(s, G)` to `(s.step m, addTo G m b s.nextId)`
  fun_induction FitsAll s G mbs with
  | case1 => exact fun hI _ hp _ => ⟨hI, (List.append_nil _).symm, hp⟩
  | case2 s G m b t ih =>
    intro hI hF hp hok
    obtain ⟨s1, s2, s3, s4⟩ := step8 s G m b hI hF.1 hp hok
    obtain ⟨r1, r2, r3⟩ := ih s1 hF.2 s4 s3
    refine ⟨r1, ?_, r3⟩
    show (List.foldl St.step (s.step m) (t.map (·.1))).seqL = _
    rw [r2, s2, List.append_assoc]
    rfl

def HasRec (G : Nat → List Rec) (e b id : Nat) : Prop := ∃ r ∈ G e, r.boot = b ∧ r.id = id

def BootsDesc (G : Nat → List Rec) : Prop := ∀ e, (G e).Pairwise (fun a b => a.boot > b.boot)

theorem addTo_hasRec (G : Nat → List Rec) (m : Msg) (b nid : Nat) (e b0 id : Nat) (h : HasRec G e b0 id) :
    HasRec (addTo G m b nid) e b0 id := by
  obtain ⟨r, hr, hb, hi⟩ := h
  unfold HasRec
  -- the cases of `addTo`: the ECU's first message, a message of its newest boot, of the next boot, another ECU
  fun_cases addTo G m b nid e with
  | case1 he hg => rw [he, hg] at hr; cases hr
  | case2 he R T hg =>
    rw [he, hg] at hr
    rcases List.mem_cons.mp hr with rfl | hr
    · exact ⟨_, List.mem_cons_self, hb, hi⟩
    · exact ⟨r, List.mem_cons_of_mem _ hr, hb, hi⟩
  | case3 he R T hg => exact ⟨r, List.mem_cons_of_mem _ (hg ▸ he ▸ hr), hb, hi⟩
  | case4 => exact ⟨r, hr, hb, hi⟩

theorem addTo_head (G : Nat → List Rec) (m : Msg) (b nid : Nat) :
    HasRec (addTo G m b nid) m.ecu b (headId (addTo G m b nid) m.ecu) := by
  unfold headId HasRec
  fun_cases addTo G m b nid m.ecu with
  | case1 => exact ⟨_, List.mem_cons_self, rfl, rfl⟩
  | case2 _ R T _ hbb => exact ⟨_, List.mem_cons_self, hbb.symm, rfl⟩
  | case3 => exact ⟨_, List.mem_cons_self, rfl, rfl⟩
  | case4 he => exact absurd rfl he

theorem addTo_bootsDesc (G : Nat → List Rec) (m : Msg) (b nid : Nat) (hF : Fits G m b) (h : BootsDesc G) : BootsDesc (addTo G m b nid) := by
  intro e
  have hme := h m.ecu
  obtain ⟨_, _, _, hfit⟩ := hF
  fun_cases addTo G m b nid e with
  | case1 => exact List.pairwise_singleton _ _
  | case2 _ R T hg =>
    rw [hg] at hme
    exact List.pairwise_cons.mpr (List.pairwise_cons.mp hme)
  | case3 _ R T hg hbb =>
    rw [hg] at hme hfit
    rcases hfit with ⟨h1, _⟩ | ⟨h1, _⟩
    · exact absurd h1 hbb
    · refine List.pairwise_cons.mpr ⟨fun x hx => ?_, hme⟩
      rcases List.mem_cons.mp hx with rfl | hx
      · exact h1 ▸ Nat.lt_succ_self _
      · exact h1 ▸ Nat.lt_succ_of_lt (List.rel_of_pairwise_cons hme hx)
  | case4 => exact h e

theorem finalG_ind (P : (Nat → List Rec) → Prop) (hstep : ∀ G m b nid, Fits G m b → P G → P (addTo G m b nid))
    (mbs : List (Msg × Nat)) : ∀ (s : St) (G : Nat → List Rec), FitsAll s G mbs → P G → P (finalG s G mbs) := by
  intro s G
  fun_induction finalG s G mbs with
  | case1 => exact fun _ h => h
  | case2 s G m b t ih => exact fun hF h => ih hF.2 (hstep G m b s.nextId hF.1 h)

/-- every label is the message itself with the id of the record of its boot in the final ground truth -/
theorem labels8_spec (mbs : List (Msg × Nat)) : ∀ (s : St) (G : Nat → List Rec), FitsAll s G mbs →
    (labels8 s G mbs).length = mbs.length ∧
    ∀ p ∈ mbs.zip (labels8 s G mbs), p.2 = { p.1.1 with lc := p.2.lc } ∧ HasRec (finalG s G mbs) p.1.1.ecu p.1.2 p.2.lc := by
  intro s G
  fun_induction labels8 s G mbs with
  | case1 => exact fun _ => ⟨rfl, List.forall_mem_nil _⟩
  | case2 s G m b t ih =>
    intro hF
    obtain ⟨i1, i2⟩ := ih hF.2
    refine ⟨congrArg (· + 1) i1, fun p hp => ?_⟩
    rcases List.mem_cons.mp hp with rfl | hp
    · exact ⟨rfl, finalG_ind (HasRec · m.ecu b _) (fun G m' b' nid _ => addTo_hasRec G m' b' nid _ _ _) t _ _ hF.2 (addTo_head G m b s.nextId)⟩
    · exact i2 p hp

theorem clean_trace (mbs : List (Msg × Nat)) (hF : FitsAll {} (fun _ => []) mbs) :
    Inv8 (run (mbs.map (·.1))) (finalG {} (fun _ => []) mbs) ∧
    (run (mbs.map (·.1))).outL = labels8 {} (fun _ => []) mbs ∧
    BootsDesc (finalG {} (fun _ => []) mbs) := by
  obtain ⟨r1, r2, r3⟩ := steps8 mbs {} (fun _ => []) ⟨fun _ => rfl, fun _ l hl => (by cases hl), fun _ => trivial⟩ hF rfl (fun _ => rfl)
  refine ⟨?_, ?_, finalG_ind BootsDesc addTo_bootsDesc mbs _ _ hF (fun _ => List.Pairwise.nil)⟩
  · exact r1.of_ecuMap (finish_ecuMap _)
  · unfold run
    rw [finish_L _ r3, r2]
    rfl

end Lcm
