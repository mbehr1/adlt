import Adlt.Lc.Final
import Adlt.Lc.Sum
import Adlt.Lc.Labels
/-! C07 (counts, part 4): per lifecycle. The count of a live lifecycle is the number of its messages delivered so far plus the
    number still queued; a lifecycle that is still buffered has delivered nothing; nothing of a *newer* lifecycle of an ECU is
    delivered while an older one is still buffered (the queue is first-in first-out and the older one's messages are in front);
    hence a lifecycle that is merged away has never been seen by the consumer, and every delivered id stays live. -/
namespace Lcm

def cntM (id : Nat) (l : List Msg) : Nat := (l.filter (fun m => m.lc == id)).length

theorem cntM_cons (id : Nat) (m : Msg) (t : List Msg) : cntM id (m :: t) = (if m.lc = id then 1 else 0) + cntM id t := by
  unfold cntM
  rw [← List.countP_eq_length_filter, ← List.countP_eq_length_filter, List.countP_cons, Nat.add_comm]
  simp only [beq_iff_eq]

theorem cntM_single (id : Nat) (m : Msg) : cntM id [m] = if m.lc = id then 1 else 0 := cntM_cons id m []

theorem cntM_append (id : Nat) (a b : List Msg) : cntM id (a ++ b) = cntM id a + cntM id b := by
  unfold cntM; rw [List.filter_append, List.length_append]

theorem cntM_eq_zero (id : Nat) (l : List Msg) : cntM id l = 0 ↔ ∀ x ∈ l, x.lc ≠ id := by
  unfold cntM
  -- `rewrite`: the `rfl` that `rw` tries afterwards only fails, slowly
  rewrite [← List.countP_eq_length_filter, List.countP_eq_zero]
  simp only [beq_iff_eq, ne_eq]

theorem cntM_pos_mem (id : Nat) (l : List Msg) (h : 1 ≤ cntM id l) : ∃ x ∈ l, x.lc = id := by
  unfold cntM at h
  rw [← List.countP_eq_length_filter] at h
  exact (List.countP_pos_iff.mp h).imp fun _ hx => ⟨hx.1, beq_iff_eq.mp hx.2⟩

/-- the (lifecycle id, ECU) of the delivered messages, newest first -/
def St.outIds (s : St) : List (Nat × Nat) := s.out.map fun o => (o.m.lc, o.m.ecu)

def cntI (id : Nat) (oi : List (Nat × Nat)) : Nat := (oi.filter (fun p => p.1 == id)).length

theorem cntI_cons (id : Nat) (p : Nat × Nat) (t : List (Nat × Nat)) : cntI id (p :: t) = (if p.1 = id then 1 else 0) + cntI id t := by
  unfold cntI
  rw [← List.countP_eq_length_filter, ← List.countP_eq_length_filter, List.countP_cons, Nat.add_comm]
  simp only [beq_iff_eq]

theorem cntI_eq_zero (id : Nat) (oi : List (Nat × Nat)) : cntI id oi = 0 ↔ ∀ p ∈ oi, p.1 ≠ id := by
  unfold cntI
  rewrite [← List.countP_eq_length_filter, List.countP_eq_zero]
  simp only [beq_iff_eq, ne_eq]

structure CI (em : List (Nat × List Lc)) (bl : List Nat) (oi : List (Nat × Nat)) (Q : List Msg) : Prop where
  cnt : ∀ lc, Live em lc → lc.nrMsgs = cntI lc.id oi + cntM lc.id Q   -- count = delivered + queued
  pos : ∀ lc, Live em lc → 1 ≤ lc.nrMsgs
  bufOut : ∀ lc, Live em lc → lc.id ∈ bl → cntI lc.id oi = 0           -- a buffered lifecycle has delivered nothing
  outLive : ∀ p ∈ oi, ∃ lc, Live em lc ∧ lc.id = p.1 ∧ lc.ecu = p.2    -- a delivered id is live, on the message's ECU
  qLive : ∀ m ∈ Q, ∃ lc, Live em lc ∧ lc.id = m.lc ∧ lc.ecu = m.ecu    -- ... and so is a queued one
  sorted : ∀ p ∈ em, (p.2.map (·.id)).Pairwise (· < ·)                 -- an ECU's list is in the order of the ids
  -- while an older lifecycle `a` of an ECU is buffered, nothing of a newer `b` is out, and in the queue `a` comes first (`Before`)
  older : ∀ a b, Live em a → Live em b → a.ecu = b.ecu → a.id < b.id → a.id ∈ bl →
    cntI b.id oi = 0 ∧ ∀ q1 m q2, Q = q1 ++ m :: q2 → m.lc = b.id → ∃ x ∈ q1, x.lc = a.id

/-! ### first in, first out -/

/-- every message of `b` in `Q` has a message of `a` in front of it: what `CI.older` says of the queue -/
def Before (a b : Nat) (Q : List Msg) : Prop := ∀ q1 m q2, Q = q1 ++ m :: q2 → m.lc = b → ∃ x ∈ q1, x.lc = a

/-- the head leaves the queue: it was not a message of `b`, and unless it was one of `a` the order is as before -/
theorem before_pop {a b : Nat} {m : Msg} {t : List Msg} (h : Before a b (m :: t)) : m.lc ≠ b ∧ (m.lc ≠ a → Before a b t) := by
  refine ⟨fun hb => ?_, fun ha q1 m' q2 hq hb => ?_⟩
  · obtain ⟨x, hx, _⟩ := h [] m t rfl hb
    cases hx
  · obtain ⟨x, hx, hxa⟩ := h (m :: q1) m' q2 (by rw [hq]; rfl) hb
    rcases List.mem_cons.mp hx with rfl | hx
    · exact absurd hxa ha
    · exact ⟨x, hx, hxa⟩

theorem before_of_not_mem (a b : Nat) (Q : List Msg) (h : ∀ x ∈ Q, x.lc ≠ b) : Before a b Q :=
  fun _ m _ hq hb => absurd hb (h m (hq ▸ List.mem_append_right _ List.mem_cons_self))

/-- once a message of `a` is queued, whatever is appended has it in front -/
theorem before_append {a b : Nat} {Q R : List Msg} (h : Before a b Q) (hq : ∃ x ∈ Q, x.lc = a) : Before a b (Q ++ R) := by
  intro q1 m q2 e hb
  rcases List.append_eq_append_iff.mp e with ⟨r, rfl, _⟩ | ⟨r, rfl, hr⟩
  · exact hq.imp fun x hx => ⟨List.mem_append_left _ hx.1, hx.2⟩
  · cases r with
    | nil => exact hq.imp fun x hx => ⟨List.append_nil q1 ▸ hx.1, hx.2⟩
    | cons y r =>
      obtain ⟨rfl, _⟩ := List.cons.inj hr
      exact h q1 m r rfl hb

/-- The messages of `c` are relabelled to `d`: the order of `a` before `b` survives if `a` is not `c` and - when
    `d` is `b`, so that the messages of `c` become messages of `b` - `a` was before `c` too. -/
theorem before_relabel (a b c d : Nat) (hac : a ≠ c) (Q : List Msg) (h1 : Before a b Q)
    (h2 : d = b → Before a c Q) : Before a b (relabel c d Q) := by
  intro q1 m q2 hq hb
  obtain ⟨l1, l2, rfl, rfl, hl2⟩ := List.map_eq_append_iff.mp (relabel_eq_map c d Q ▸ hq)
  obtain ⟨m0, l3, rfl, rfl, rfl⟩ := List.map_eq_cons_iff.mp hl2
  -- `m0` is a message of `b`, or one of `c` that now carries `d = b`: either way one of `a` is in front of it, and keeps its id
  have : ∃ x ∈ l1, x.lc = a := by
    rw [rel1_lc] at hb
    by_cases hm : m0.lc = c
    · rw [if_pos hm] at hb
      exact h2 hb l1 m0 l3 rfl hm
    · rw [if_neg hm] at hb
      exact h1 l1 m0 l3 rfl hb
  obtain ⟨x, hx, hxa⟩ := this
  exact ⟨rel1 c d x, List.mem_map_of_mem hx, by rw [rel1_lc, if_neg (hxa ▸ hac), hxa]⟩

/-- a buffered lifecycle has delivered nothing, so all its messages - at least one - are queued -/
theorem CI.queued {em : List (Nat × List Lc)} {bl : List Nat} {oi : List (Nat × Nat)} {Q : List Msg} (h : CI em bl oi Q)
    (a : Lc) (ha : Live em a) (hb : a.id ∈ bl) : ∃ x ∈ Q, x.lc = a.id := by
  have := h.cnt a ha
  rw [h.bufOut a ha hb, Nat.zero_add] at this
  exact cntM_pos_mem a.id Q (this ▸ h.pos a ha)

/-- the head of the queue, belonging to a confirmed lifecycle, is delivered -/
theorem ci_pop (em : List (Nat × List Lc)) (bl : List Nat) (oi : List (Nat × Nat)) (m : Msg) (t : List Msg)
    (h : CI em bl oi (m :: t)) (hnb : m.lc ∉ bl) : CI em bl ((m.lc, m.ecu) :: oi) t := by
  refine ⟨?cnt, h.pos, ?bufOut, ?outLive, fun x hx => h.qLive x (List.mem_cons_of_mem _ hx), h.sorted, ?older⟩
  case cnt =>
    intro lc hl
    have := h.cnt lc hl
    rw [cntM_cons] at this
    rw [cntI_cons, Nat.add_assoc, Nat.add_left_comm]
    exact this
  case bufOut =>
    intro lc hl hb
    rw [cntI_cons, if_neg (fun hc : m.lc = lc.id => hnb (hc ▸ hb)), Nat.zero_add]
    exact h.bufOut lc hl hb
  case outLive =>
    exact List.forall_mem_cons.mpr ⟨h.qLive m List.mem_cons_self, h.outLive⟩
  case older =>
    intro a b ha hb hecu hlt hab
    obtain ⟨o1, o2⟩ := h.older a b ha hb hecu hlt hab
    -- the head is not of `b` (nothing of `a` is in front of it) and not of `a` (which is buffered)
    have hc := before_pop o2
    exact ⟨by rw [cntI_cons, if_neg hc.1, Nat.zero_add]; exact o1, hc.2 fun hm => hnb (hm ▸ hab)⟩

theorem ci_unbuffer (em : List (Nat × List Lc)) (bl bl' : List Nat) (oi : List (Nat × Nat)) (Q : List Msg) (h : CI em bl oi Q)
    (hsub : ∀ i ∈ bl', i ∈ bl) : CI em bl' oi Q :=
  ⟨h.cnt, h.pos, fun lc hl hb => h.bufOut lc hl (hsub _ hb), h.outLive, h.qLive, h.sorted,
   fun a b ha hb hecu hlt hab => h.older a b ha hb hecu hlt (hsub _ hab)⟩

theorem ci_pops (em : List (Nat × List Lc)) (bl : List Nat) : ∀ (pre : List Msg) (oi : List (Nat × Nat)) (Q : List Msg),
    CI em bl oi (pre ++ Q) → (∀ m ∈ pre, m.lc ∉ bl) → CI em bl ((pre.reverse.map fun m => (m.lc, m.ecu)) ++ oi) Q := by
  intro pre
  induction pre with
  | nil => intro oi Q h _; exact h
  | cons m t ih =>
    intro oi Q h hnb
    have := ih _ Q (ci_pop em bl oi m (t ++ Q) h (hnb m List.mem_cons_self)) fun x hx => hnb x (List.mem_cons_of_mem _ hx)
    simpa using this

theorem sorted_of_oldList (em : List (Nat × List Lc)) (e : Nat) (hs : ∀ p ∈ em, (p.2.map (·.id)).Pairwise (· < ·)) :
    ((oldList em e).map (·.id)).Pairwise (· < ·) := by
  unfold oldList
  cases hg : assocGet e em with
  | none => exact .nil
  | some L => exact hs (e, L) (assocGet_mem _ _ _ hg)

theorem sorted_assocSet (em : List (Nat × List Lc)) (e : Nat) (L' : List Lc) (hk : (keys em).Nodup)
    (hs : ∀ p ∈ em, (p.2.map (·.id)).Pairwise (· < ·)) (hL : (L'.map (·.id)).Pairwise (· < ·)) :
    ∀ p ∈ assocSet e L' em, (p.2.map (·.id)).Pairwise (· < ·) := by
  intro p hp
  rcases (mem_assocSet e L' em hk p).mp hp with rfl | ⟨h, _⟩
  · exact hL
  · exact hs p h

/-- a fresh lifecycle (one message, buffered) is appended to the list of its ECU; the message in flight is its first one -/
theorem ci_new (em : List (Nat × List Lc)) (n : Nat) (hm : MapInv em n) (bl : List Nat) (oi : List (Nat × Nat)) (Q : List Msg)
    (h : CI em bl oi Q) (e : Nat) (N : Lc) (m' : Msg)
    (hN : N.id = n) (hNe : N.ecu = e) (hNn : N.nrMsgs = 1) (hml : m'.lc = n) (hme : m'.ecu = e) :
    CI (assocSet e (oldList em e ++ [N]) em) (bl ++ [n]) oi (Q ++ [m']) := by
  have hlive := (live_append em n e hm N hN hNe).2
  -- the new id is nowhere yet: not live, not delivered, not queued, not buffered
  have hold : ∀ lc, Live em lc → lc.id ≠ n := fun lc hl => Nat.ne_of_lt (hm.fresh lc hl)
  have hoiN : cntI n oi = 0 := (cntI_eq_zero n oi).mpr fun p hp hc =>
    (h.outLive p hp).elim fun lc ⟨hl, hid, _⟩ => hold lc hl (hid.trans hc)
  have hQ : ∀ x ∈ Q, x.lc ≠ n := fun x hx hc =>
    (h.qLive x hx).elim fun lc ⟨hl, hid, _⟩ => hold lc hl (hid.trans hc)
  have hbl : ∀ lc, Live em lc → lc.id ∈ bl ++ [n] → lc.id ∈ bl := fun lc hl hb =>
    (List.mem_append.mp hb).resolve_right fun h1 => hold lc hl (List.mem_singleton.mp h1)
  refine ⟨?cnt, ?pos, ?bufOut, ?outLive, ?qLive, ?sorted, ?older⟩
  case cnt =>
    intro lc hl
    rw [cntM_append, cntM_single, hml]
    rcases (hlive lc).mp hl with rfl | hl0
    · rw [hN, hNn, hoiN, (cntM_eq_zero n Q).mpr hQ, if_pos rfl]
    · rw [if_neg (Ne.symm (hold lc hl0)), Nat.add_zero]
      exact h.cnt lc hl0
  case pos =>
    intro lc hl
    rcases (hlive lc).mp hl with rfl | hl0
    · exact Nat.le_of_eq hNn.symm
    · exact h.pos lc hl0
  case bufOut =>
    intro lc hl hb
    rcases (hlive lc).mp hl with rfl | hl0
    · exact hN ▸ hoiN
    · exact h.bufOut lc hl0 (hbl lc hl0 hb)
  case outLive =>
    exact fun p hp => (h.outLive p hp).imp fun lc hl => ⟨(hlive lc).mpr (.inr hl.1), hl.2⟩
  case qLive =>
    exact List.forall_mem_append.mpr ⟨fun x h1 => (h.qLive x h1).imp fun lc hl => ⟨(hlive lc).mpr (.inr hl.1), hl.2⟩,
      List.forall_mem_singleton.mpr ⟨N, (hlive N).mpr (.inl rfl), hN.trans hml.symm, hNe.trans hme.symm⟩⟩
  case sorted =>
    apply sorted_assocSet em e _ hm.keysNodup h.sorted
    rw [List.map_append, List.pairwise_append]
    exact ⟨sorted_of_oldList em e h.sorted, List.pairwise_singleton _ _, List.forall_mem_map.mpr fun lc hlc =>
      List.forall_mem_singleton.mpr (Nat.lt_of_lt_of_eq (hm.fresh lc (oldList_live _ e lc hlc)) hN.symm)⟩
  case older =>
    intro a b ha hb hecu hlt hab
    rcases (hlive a).mp ha with rfl | ha0
    · -- the new one is the newest: nothing is newer
      rcases (hlive b).mp hb with rfl | hb0
      · exact absurd hlt (Nat.lt_irrefl _)
      · exact absurd (hN ▸ hlt) (Nat.lt_asymm (hm.fresh b hb0))
    · have habl := hbl a ha0 hab
      have hq := h.queued a ha0 habl
      rcases (hlive b).mp hb with rfl | hb0
      · exact ⟨hN ▸ hoiN, before_append (before_of_not_mem _ _ _ (hN ▸ hQ)) hq⟩
      · exact (h.older a b ha0 hb0 hecu hlt habl).imp_right fun o2 => before_append o2 hq

/-- the last lifecycle of the ECU takes the message in flight: same id, one message more -/
theorem ci_keep (em : List (Nat × List Lc)) (n : Nat) (hm : MapInv em n) (bl : List Nat) (oi : List (Nat × Nat)) (Q : List Msg)
    (h : CI em bl oi Q) (e : Nat) (pre : List Lc) (last r1 : Lc) (m' : Msg)
    (hold : oldList em e = pre ++ [last]) (hid : r1.id = last.id) (hecu : r1.ecu = last.ecu) (hn : r1.nrMsgs = last.nrMsgs + 1)
    (hml : m'.lc = last.id) (hme : m'.ecu = e) :
    CI (assocSet e (pre ++ [r1]) em) bl oi (Q ++ [m']) := by
  have u := live_update_last em n hm e pre last [] r1 hold hid hecu
  have hsucc := fun i c h0 => u.succ i c h0 (List.forall_mem_nil _)
  refine ⟨?cnt, ?pos, ?bufOut, ?outLive, ?qLive, ?sorted, ?older⟩
  case cnt =>
    intro lc hl
    obtain ⟨lc0, o⟩ := u.orig lc hl
    have := h.cnt lc0 o.live
    rw [cntM_append, cntM_single, hml]
    rcases o.same with ⟨rfl, hne⟩ | ⟨rfl, rfl⟩
    · rw [if_neg (Ne.symm hne), Nat.add_zero]; exact this
    · rw [if_pos hid.symm, hn, hid, this, Nat.add_assoc]
  case pos =>
    intro lc hl
    obtain ⟨lc0, o⟩ := u.orig lc hl
    rcases o.same with ⟨rfl, _⟩ | ⟨_, rfl⟩
    · exact h.pos lc0 o.live
    · exact hn ▸ Nat.le_add_left 1 _
  case bufOut =>
    intro lc hl hb
    obtain ⟨lc0, o⟩ := u.orig lc hl
    exact o.id ▸ h.bufOut lc0 o.live (o.id ▸ hb)
  case outLive =>
    exact fun p hp => hsucc _ _ (h.outLive p hp)
  case qLive =>
    exact List.forall_mem_append.mpr ⟨fun x h1 => hsucc _ _ (h.qLive x h1), List.forall_mem_singleton.mpr
      ⟨r1, u.live, hid.trans hml.symm, hecu.trans ((u.old last List.mem_cons_self).2.trans hme.symm)⟩⟩
  case sorted =>
    apply sorted_assocSet em e _ hm.keysNodup h.sorted
    have := sorted_of_oldList em e h.sorted
    rw [hold] at this
    simpa [List.map_append, hid] using this
  case older =>
    intro a b ha hb hecu' hlt hab
    obtain ⟨a0, oa⟩ := u.orig a ha
    obtain ⟨b0, ob⟩ := u.orig b hb
    rw [← oa.id] at hab hlt ⊢
    rw [← ob.id] at hlt ⊢
    exact (h.older a0 b0 oa.live ob.live (oa.ecu.trans (hecu'.trans ob.ecu.symm)) hlt hab).imp_right fun o2 =>
      before_append o2 (h.queued a0 oa.live hab)

theorem cntM_relabel_other (a b id : Nat) (Q : List Msg) (h1 : id ≠ a) (h2 : id ≠ b) : cntM id (relabel a b Q) = cntM id Q := by
  induction Q with
  | nil => rfl
  | cons m t ih =>
    show cntM id (rel1 a b m :: relabel a b t) = _
    rw [cntM_cons, cntM_cons, ih, rel1_lc]
    by_cases hm : m.lc = a
    · rw [if_pos hm, if_neg (Ne.symm h2), hm, if_neg (Ne.symm h1)]
    · rw [if_neg hm]

theorem cntM_relabel_target (a b : Nat) (Q : List Msg) (hab : a ≠ b) : cntM b (relabel a b Q) = cntM b Q + cntM a Q := by
  induction Q with
  | nil => rfl
  | cons m t ih =>
    show cntM b (rel1 a b m :: relabel a b t) = _
    rw [cntM_cons, cntM_cons, cntM_cons, ih, rel1_lc]
    by_cases hm : m.lc = a
    · rw [if_pos hm, if_pos rfl, hm, if_neg hab, if_pos rfl, Nat.zero_add, Nat.add_left_comm]
    · rw [if_neg hm, if_neg hm, Nat.zero_add, Nat.add_assoc]

/-- `lc2` (the last lifecycle, already holding the message in flight) is merged into `prev`; nothing of `lc2` was delivered -/
theorem ci_merge (em : List (Nat × List Lc)) (n : Nat) (hm : MapInv em n) (bl : List Nat) (hbn : bl.Nodup) (oi : List (Nat × Nat))
    (Q : List Msg) (h : CI em bl oi Q) (e : Nat) (pre : List Lc) (prev last lc2 : Lc) (mq : Msg)
    (hold : oldList em e = pre ++ [prev, last]) (hid : lc2.id = last.id) (hn : lc2.nrMsgs = last.nrMsgs + 1)
    (hml : mq.lc = prev.id) (hme : mq.ecu = e) (hnone : cntI last.id oi = 0) :
    CI (assocSet e (pre ++ [prev.merge lc2]) em) (bl.erase last.id) oi (relabel last.id prev.id Q ++ [mq]) := by
  have hsort := sorted_of_oldList em e h.sorted
  rw [hold, List.append_cons, List.map_append, List.map_append, List.pairwise_append] at hsort
  have hpl : prev.id < last.id := hsort.2.2 prev.id (List.mem_append_right _ List.mem_cons_self) last.id List.mem_cons_self
  obtain ⟨mid, mecu⟩ := merge_facts prev lc2
  have mnr := merge_n prev lc2
  generalize prev.merge lc2 = P at *
  have u := live_update_last em n hm e pre prev [last] P hold mid mecu
  obtain ⟨hlastLive, hlastE⟩ := u.old last (List.mem_cons_of_mem _ List.mem_cons_self)
  have hprevE := (u.old prev List.mem_cons_self).2
  refine ⟨?cnt, ?pos, ?bufOut, ?outLive, ?qLive, ?sorted, ?older⟩
  case cnt =>
    intro lc hl
    obtain ⟨lc0, o⟩ := u.orig lc hl
    have := h.cnt lc0 o.live
    rw [cntM_append, cntM_single, hml]
    rcases o.same with ⟨rfl, hnp⟩ | ⟨rfl, rfl⟩
    · rw [if_neg (Ne.symm hnp), cntM_relabel_other _ _ _ _ (o.kept last List.mem_cons_self) hnp, Nat.add_zero]; exact this
    · have hlast := h.cnt last hlastLive
      rw [if_pos mid.symm, mid, mnr, hn, cntM_relabel_target _ _ _ (Nat.ne_of_gt hpl), this, hlast, hnone, Nat.zero_add,
        Nat.add_assoc, Nat.add_assoc]
  case pos =>
    intro lc hl
    obtain ⟨lc0, o⟩ := u.orig lc hl
    rcases o.same with ⟨rfl, _⟩ | ⟨rfl, rfl⟩
    · exact h.pos lc0 o.live
    · exact mnr ▸ Nat.le_add_right_of_le (h.pos lc0 o.live)
  case bufOut =>
    intro lc hl hb
    obtain ⟨lc0, o⟩ := u.orig lc hl
    exact o.id ▸ h.bufOut lc0 o.live (o.id ▸ List.mem_of_mem_erase hb)
  case outLive =>
    exact fun p hp => u.succ _ _ (h.outLive p hp) (List.forall_mem_singleton.mpr ((cntI_eq_zero _ _).mp hnone p hp))
  case qLive =>
    exact List.forall_mem_append.mpr ⟨u.msgOk hm mid mecu h.qLive, List.forall_mem_singleton.mpr
      ⟨P, u.live, mid.trans hml.symm, mecu.trans (hprevE.trans hme.symm)⟩⟩
  case sorted =>
    apply sorted_assocSet em e _ hm.keysNodup h.sorted
    rw [List.map_append]
    show (pre.map (·.id) ++ [P.id]).Pairwise (· < ·)
    rw [mid]; exact hsort.1
  case older =>
    intro a b ha hb hecu' hlt hab
    obtain ⟨a0, oa⟩ := u.orig a ha
    obtain ⟨b0, ob⟩ := u.orig b hb
    have hanl : a0.id ≠ last.id := oa.id ▸ oa.kept last List.mem_cons_self
    rw [← oa.id] at hab hlt ⊢
    rw [← ob.id] at hlt ⊢
    have habl := List.mem_of_mem_erase hab
    have hab0 : a0.ecu = b0.ecu := oa.ecu.trans (hecu'.trans ob.ecu.symm)
    obtain ⟨o1, o2⟩ := h.older a0 b0 oa.live ob.live hab0 hlt habl
    obtain ⟨xa, hxa, hxal⟩ := h.queued a0 oa.live habl
    refine ⟨o1, before_append (before_relabel _ _ _ _ hanl Q o2 fun hd => ?_) ⟨xa, relabel_keep _ _ _ xa hxa (hxal ▸ hanl), hxal⟩⟩
    -- the messages of `last` become messages of `b`, which is then the merged lifecycle: `a` is older than `last` as well
    have hb0p : b0 = prev := by
      rcases ob.same with ⟨_, hnp⟩ | ⟨hb0p, _⟩
      · exact absurd (hd.trans ob.id).symm hnp
      · exact hb0p
    exact (h.older a0 last oa.live hlastLive (by rw [hab0, hb0p, hprevE, hlastE]) (Nat.lt_trans (hb0p ▸ hlt) hpl) habl).2

/-! ### the invariant along the run -/

/-- `Q` is the queue followed by the message in flight, as for `FInv` (see the head of Final.lean) -/
def CIs (s : St) (Q : List Msg) : Prop := CI s.ecuMap s.bufLcs s.outIds Q

theorem outIds_delivered (s : St) (pre : List Msg) (tr : List Nat) (post : List Msg) :
    (s.delivered pre tr post).outIds = (pre.reverse.map fun m => (m.lc, m.ecu)) ++ s.outIds := by
  simp [St.outIds, Function.comp_def, List.map_reverse]

theorem cis_delivered (s : St) (pre : List Msg) (tr : List Nat) (post extra : List Msg) (h : CIs s (pre ++ (post ++ extra)))
    (hnb : ∀ m ∈ pre, m.lc ∉ s.bufLcs) : CIs (s.delivered pre tr post) (post ++ extra) := by
  unfold CIs
  rw [outIds_delivered]
  exact ci_pops _ _ pre _ _ h hnb

theorem confirm_ci (s : St) (m : Msg) (extra : List Msg) (hn : s.bufLcs.Nodup) (h : CIs s (s.bufMsgs ++ extra)) :
    CIs (s.confirm m) ((s.confirm m).bufMsgs ++ extra) := by
  refine (confirm_inv (I := fun t => t.bufLcs.Nodup ∧ CIs t (t.bufMsgs ++ extra)) s m ⟨hn, h⟩
    (fun t lc pre post tr _ ht r => ?_) (fun _ _ ht => ht)).2
  refine ⟨ht.1.erase _, cis_delivered (t.confirmed lc) pre tr post extra ?_ fun m hm => ?_⟩
  · have h := ht.2
    rw [r.split, List.append_assoc] at h
    exact ci_unbuffer _ _ _ _ _ h fun i hi => List.mem_of_mem_erase hi
  · rcases r.preFree m hm with h1 | h1
    · rw [h1]; exact List.Nodup.not_mem_erase ht.1
    · exact h1

theorem assign_ci (s : St) (m : Msg) (hi : LInv s) (hf : FInv s s.bufMsgs) (h : CIs s s.bufMsgs) :
    CIs (s.assign m).1 ((s.assign m).1.bufMsgs ++ [(s.assign m).2]) := by
  cases assign_cases s m with
  | append N eq h1 h2 h3 =>
    rw [eq]
    exact ci_new s.ecuMap s.nextId hi.map s.bufLcs s.outIds s.bufMsgs h m.ecu N { m with lc := s.nextId } h1 h2 h3 rfl rfl
  | keep pre last r eq hL h1 h2 h3 =>
    rw [eq]
    exact ci_keep s.ecuMap s.nextId hi.map s.bufLcs s.outIds s.bufMsgs h m.ecu pre last r { m with lc := last.id } hL h1 h2 h3 rfl rfl
  | merge pre prev last r eq hL h1 _ h3 hc =>
    rw [eq]
    obtain ⟨hlastLive, hlastE⟩ := oldList_mem _ _ _ hi.map hL (a := last) (List.mem_append_right _ (List.mem_cons_of_mem _ List.mem_cons_self))
    obtain ⟨hprevLive, hprevE⟩ := oldList_mem _ _ _ hi.map hL (a := prev) (List.mem_append_right _ List.mem_cons_self)
    -- nothing of the last lifecycle has been delivered: the one before it is still buffered, or all its messages are queued
    have hnone : cntI last.id s.outIds = 0 := by
      rcases hc with hc | hc
      · have hsort := sorted_of_oldList s.ecuMap m.ecu h.sorted
        rw [hL, List.append_cons, List.map_append, List.pairwise_append] at hsort
        have hpl : prev.id < last.id := hsort.2.2 prev.id (List.mem_map_of_mem (List.mem_append_right _ List.mem_cons_self)) last.id List.mem_cons_self
        exact (h.older prev last hprevLive hlastLive (hprevE.trans hlastE.symm) hpl hc).1
      · -- as many are queued as it counts (`hc`, `h3`), and it counts delivered + queued (`cnt`): none is out
        have e1 : cntM last.id s.bufMsgs = last.nrMsgs := Nat.add_right_cancel (hc.trans h3)
        have e2 : 0 + cntM last.id s.bufMsgs = cntI last.id s.outIds + cntM last.id s.bufMsgs :=
          (Nat.zero_add _).trans (e1.trans (h.cnt last hlastLive))
        exact (Nat.add_right_cancel e2).symm
    -- (`ci_merge` asks for `bufNodup` and `r.id = last.id`, and uses neither)
    have base := ci_merge s.ecuMap s.nextId hi.map s.bufLcs hf.bufNodup s.outIds s.bufMsgs h m.ecu pre prev last r
      { m with lc := prev.id } hL h1 h3 rfl rfl hnone
    rcases mergeTail_cases s last.id prev.id m.ecu (pre ++ [prev.merge r]) with ⟨e', _⟩ | ⟨hb, tr, _, e'⟩ <;> rw [e']
    · exact base
    · exact cis_delivered _ _ tr [] [_] base fun _ _ => hb ▸ List.not_mem_nil

theorem deliver_ci (s : St) (m : Msg) (hok : s.ok) (h : CIs s (s.bufMsgs ++ [m])) : CIs (s.deliver m) (s.deliver m).bufMsgs := by
  rcases deliver_eq s m with ⟨_, e⟩ | ⟨hb, e⟩ <;> rw [e]
  · exact h
  · have hm := hok hb
    rw [hm] at h ⊢
    exact cis_delivered s [m] _ [] [] h fun _ _ => hb ▸ List.not_mem_nil

theorem init_ci : CIs ({} : St) [] where
  cnt _ h := (not_live_nil _ h).elim
  pos _ h := (not_live_nil _ h).elim
  bufOut _ h := (not_live_nil _ h).elim
  outLive := List.forall_mem_nil _
  qLive := List.forall_mem_nil _
  sorted := List.forall_mem_nil _
  older _ _ h := (not_live_nil _ h).elim

/-- everything that holds between two steps of a run: `CI` rests on all the others -/
structure RunInv (s : St) : Prop where
  linv : LInv s
  idpos : IdPos s
  finv : FInv s s.bufMsgs
  ok : s.ok
  ci : CIs s s.bufMsgs

theorem step_ci (s : St) (m : Msg) (h : RunInv s) : CIs (s.step m) (s.step m).bufMsgs :=
  step_inv (I := fun t => CIs t t.bufMsgs) s m h.ci
    (deliver_ci _ _ (confirm_ok _ _ (assign_ok s m h.ok))
      (confirm_ci _ _ [(s.assign m).2] (assign_finv s m h.linv h.idpos h.finv).bufNodup (assign_ci s m h.linv h.finv h.ci)))

theorem run_inv (ms : List Msg) : RunInv (ms.foldl St.step {}) :=
  foldl_inv (fun t m _ h => ⟨step_linv t h.linv m, idpos_step t m h.idpos, step_finv t m h.linv h.idpos h.finv,
    step_ok t m h.ok, step_ci t m h⟩) ⟨init_linv, idpos_init, init_finv, fun _ => rfl, init_ci⟩

theorem finish_outIds (s : St) (hs : s.panicked = false) :
    s.finish.outIds = (s.bufMsgs.reverse.map fun m => (m.lc, m.ecu)) ++ s.outIds := by
  obtain ⟨_, _, _, e⟩ := finish_eq s hs
  rw [e]
  simp [St.outIds, Function.comp_def, List.map_reverse]

/-- at the end: every live lifecycle counts exactly the delivered messages that carry its id; every delivered id is live -/
theorem run_counts (ms : List Msg) :
    (∀ lc, Live (run ms).ecuMap lc → lc.nrMsgs = cntI lc.id (run ms).outIds ∧ 1 ≤ lc.nrMsgs) ∧
    (∀ p ∈ (run ms).outIds, ∃ lc, Live (run ms).ecuMap lc ∧ lc.id = p.1 ∧ lc.ecu = p.2) := by
  have hc := (run_inv ms).ci
  have hnp : (ms.foldl St.step ({} : St)).panicked = false := by rw [steps_panicked]
  have hem : (run ms).ecuMap = (ms.foldl St.step {}).ecuMap := finish_ecuMap _
  have ho : (run ms).outIds = _ := finish_outIds (ms.foldl St.step {}) hnp
  -- the final flush: forget the buffered set (`finish` publishes everything), then deliver the whole queue
  have hu : CI (ms.foldl St.step {}).ecuMap [] (ms.foldl St.step {}).outIds ((ms.foldl St.step {}).bufMsgs ++ []) := by
    rw [List.append_nil]
    exact ci_unbuffer _ _ [] _ _ hc (List.forall_mem_nil _)
  have hd := ci_pops _ [] _ _ [] hu fun _ _ => List.not_mem_nil
  rw [← ho, ← hem] at hd
  -- nothing is queued any more: `cntM lc.id [] = 0`
  exact ⟨fun lc hl => ⟨(hd.cnt lc hl).trans (Nat.add_zero _), hd.pos lc hl⟩, hd.outLive⟩

end Lcm
