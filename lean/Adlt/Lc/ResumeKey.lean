import Adlt.Lc.Table
/-! C07 (listing sent by `adlt remote`): the key `Lifecycle::resume_start_time` orders every resumed lifecycle strictly behind
    the one it resumes, along whole chains of resumes.

    Invariant `RKL`: in every per-ECU list a lifecycle with a resume link has its origin among the *older* ones, and the link
    carries the origin's key (`eff`). Only the newest lifecycle of a list is ever changed, merged or followed by a new one,
    so an origin - which has a younger lifecycle behind it - never changes. -/
namespace Lcm

/-- on a list oldest first: `pre` are the lifecycles older than `b` -/
def RKL (L : List Lc) : Prop :=
  ∀ pre b, pre ++ [b] <+: L → ∀ r, b.resume = some r → ∃ a ∈ pre, a.id = r.id ∧ r.eff = a.resumeStart

def RK (em : List (Nat × List Lc)) : Prop := ∀ e, RKL (oldList em e)

theorem absorb_resume (l : Lc) (m : Msg) (r : Resume) (h : (l.absorb m).resume = some r) : l.resume = some r := by
  unfold Lc.absorb at h
  dsimp only at h  -- the `let`s of `absorb`
  by_cases hlt : l.maxTs < m.tsUs
  · rw [if_pos hlt] at h; exact h
  · rw [if_neg hlt] at h
    revert h
    cases l.resume with
    | none => exact id
    | some r0 =>
      dsimp only  -- the `match` on `some r0`
      split
      · exact nofun
      · exact id

/-- stated for whatever `update` returned, so that it applies to the equations `Assigned` carries -/
theorem update_resume {l : Lc} {id : Nat} {m : Msg} {p : Lc × Msg × Option Lc} (h : l.update id m = p) (r : Resume) :
    match p.2.2 with
    | none => p.1.resume = some r → l.resume = some r
    | some nl => nl.resume = some r → r.id = l.id ∧ r.eff = l.resumeStart := by
  subst h
  unfold Lc.update
  cases l.classify m with
  | ctrl => exact fun h => h
  | ignoreTs => exact fun h => h
  | belongs => exact absorb_resume l m r
  | fresh isResume =>
    cases isResume with
    | false => exact fun h => nomatch h
    | true => exact fun h => by cases h; exact ⟨rfl, rfl⟩

theorem merge_resume (l o : Lc) : (l.merge o).resume = l.resume := by rw [merge_eq]

/-- the older lifecycles `p` of ECU `e` stay, and what follows them gives way to `x`, whose origin is among them -/
theorem rk_snoc {em : List (Nat × List Lc)} {e : Nat} {p : List Lc} {x : Lc} (h : RK em) (hp : p <+: oldList em e)
    (hx : ∀ r, x.resume = some r → ∃ a ∈ p, a.id = r.id ∧ r.eff = a.resumeStart) : RK (assocSet e (p ++ [x]) em) := by
  intro e'
  rw [oldList_assocSet]
  split
  · intro pre b hb
    rcases List.prefix_concat_iff.mp hb with eq | hb
    · obtain ⟨rfl, rfl⟩ := List.append_singleton_inj.mp eq
      exact hx
    · exact h e pre b (hb.trans hp)
  · exact h e'

theorem assign_rk (s : St) (m : Msg) (h : RK s.ecuMap) : RK (s.assign m).1.ecuMap := by
  have hown := h m.ecu
  cases assign_cases s m with
  | append N eq _ _ _ hN =>
    rw [eq]
    refine rk_snoc h List.prefix_rfl fun r hr => ?_
    rcases hN with ⟨_, rfl⟩ | ⟨pre, last, hold, hu⟩
    · cases hr
    · obtain ⟨hi, he⟩ := update_resume hu r hr
      exact ⟨last, hold ▸ List.mem_append_right _ List.mem_cons_self, hi.symm, he⟩
  | keep pre last r eq hold _ _ _ hu =>
    rw [eq]
    rw [hold] at hown
    exact rk_snoc h (hold ▸ List.prefix_append _ _) fun r hr => hown pre last List.prefix_rfl r (update_resume hu r hr)
  | merge pre prev last r eq hold =>
    rw [eq, mergeTail_ecuMap]
    rw [hold] at hown
    exact rk_snoc h (hold ▸ List.prefix_append _ _) fun r hr =>
      hown pre prev (List.append_cons pre prev [last] ▸ List.prefix_append _ _) r (merge_resume prev _ ▸ hr)

theorem run_rk (ms : List Msg) : RK (run ms).ecuMap :=
  run_ecuMap_ind (fun _ => RK) (fun _ _ _ h => absurd (List.prefix_nil.mp h) (by simp)) (fun _ => assign_rk) ms

theorem resume_key_ordered (ms : List Msg) (b : Lc) (hb : Live (run ms).ecuMap b) (r : Resume) (hr : b.resume = some r) :
    ∃ a, Live (run ms).ecuMap a ∧ a.id = r.id ∧ a.ecu = b.ecu ∧ a.resumeStart < b.resumeStart := by
  have hmap := run_mapInv ms
  obtain ⟨pre, post, hin⟩ := List.append_of_mem (live_oldList _ _ b.ecu hmap b hb rfl)
  have hpre : pre ++ [b] <+: oldList (run ms).ecuMap b.ecu := hin ▸ List.append_cons pre b post ▸ List.prefix_append _ _
  obtain ⟨a, ha, h1, h2⟩ := run_rk ms b.ecu pre b hpre r hr
  have ha' : a ∈ oldList (run ms).ecuMap b.ecu := hpre.subset (List.mem_append_left _ ha)
  refine ⟨a, oldList_live _ _ a ha', h1, oldList_ecu _ _ b.ecu hmap a ha', ?_⟩
  have hbk : b.resumeStart = if b.start ≤ r.eff then r.eff + 1 else b.start := by unfold Lc.resumeStart; rw [hr]
  rw [hbk, h2]
  split
  · exact Nat.lt_succ_self _
  · exact Nat.lt_of_not_le ‹_›

end Lcm
