import Adlt.Lc.Assoc
/-! What the operations of the detector model compute, stated once: the primitives as record updates, the delivery loops
    (`flushAll.go`, `release.go`, the `flushOne` fold) by the state they end in, `confirm` and the fold of `step` by an
    induction rule, `assign` by an equation for each way through it and the three shapes they leave for its result. The
    invariants are proved from these statements and never unfold a loop or the glue between the operations. -/
namespace Lcm

/-- The induction along a run: an invariant `X` has its `step_X` (by `step_inv`) and is carried by this rule; what relates
    the state to the messages taken in so far goes by `steps_ind` below, which also takes care of the `panicked` guard. -/
theorem foldl_inv {α β} {I : β → Prop} {f : β → α → β} {l : List α} (h : ∀ b, ∀ a ∈ l, I b → I (f b a)) {b : β}
    (hb : I b) : I (l.foldl f b) :=
  List.foldlRecOn l f hb fun b hb a ha => h b a ha hb

/-- `lc` is in the list of some ECU of the map: the lifecycles the detector still knows (merged ones are gone) -/
def Live (em : List (Nat × List Lc)) (lc : Lc) : Prop := ∃ p ∈ em, lc ∈ p.2

theorem not_live_nil (lc : Lc) : ¬ Live [] lc := fun ⟨_, hp, _⟩ => nomatch hp

/-- the list of ECU `e` in the map `em` (oldest lifecycle first), empty if the ECU is not there -/
def oldList (em : List (Nat × List Lc)) (e : Nat) : List Lc := (assocGet e em).getD []

/-- the entry `emit` writes: `visible` is the lookup in the table the readers see -/
def outOf (pub : List (Nat × Lc)) (m : Msg) : OutMsg :=
  { m := m, visible := match assocGet m.lc pub with
      | some l => l.ecu == m.ecu
      | none => false }

@[simp] theorem outOf_m (pub : List (Nat × Lc)) (m : Msg) : (outOf pub m).m = m := rfl

theorem emit_eq (s : St) (m : Msg) : s.emit m = { s with out := outOf s.published m :: s.out } := rfl

def addMark (tr : List Nat) (i : Nat) : List Nat := if tr.contains i then tr else tr ++ [i]

theorem mark_eq (s : St) (i : Nat) : s.mark i = { s with toRefresh := addMark s.toRefresh i } := by
  unfold St.mark addMark; split <;> rfl

theorem mem_addMark {tr : List Nat} {i j : Nat} : j ∈ addMark tr i ↔ j ∈ tr ∨ j = i := by
  unfold addMark
  split
  · rename_i h
    exact ⟨.inl, fun h' => h'.elim id (fun e => e ▸ List.contains_iff_mem.mp h)⟩
  · simp

def applyPending (pub P : List (Nat × Lc)) : List (Nat × Lc) := P.foldl (fun acc kv => assocSet kv.1 kv.2 acc) pub

theorem refresh_eq (s : St) : s.refresh = { s with published := applyPending s.published s.pending, pending := [] } := rfl

/-! ### the delivery loops -/

/-- `s` after the messages `pre` have left the queue (oldest first), with marks `tr` and remaining queue `post` -/
abbrev St.delivered (s : St) (pre : List Msg) (tr : List Nat) (post : List Msg) : St :=
  { s with out := (pre.map (outOf s.published)).reverse ++ s.out, toRefresh := tr, bufMsgs := post }

/-- The marks `tr'` after a loop has delivered `pre`, starting from marks `tr` with `p` as the id it does not mark
    (the id marked or published last): marks only grow, and every delivered id but `p` is marked. -/
structure Marks (tr tr' : List Nat) (p : Nat) (pre : List Msg) : Prop where
  mono : ∀ i ∈ tr, i ∈ tr'
  got : ∀ m ∈ pre, m.lc = p ∨ m.lc ∈ tr'

theorem Marks.nil (tr : List Nat) (p : Nat) : Marks tr tr p [] := ⟨fun _ h => h, List.forall_mem_nil _⟩

/-- one round of a loop: `m` is delivered, the marks go from `tr` to `tr1`, the id not to be marked from `p` to `q` -/
theorem Marks.step {tr tr1 tr' : List Nat} {p q : Nat} {m : Msg} {t : List Msg} (h : Marks tr1 tr' q t)
    (hsub : ∀ i ∈ tr, i ∈ tr1) (hm : m.lc = p ∨ m.lc ∈ tr1) (hq : q = p ∨ q ∈ tr1) : Marks tr tr' p (m :: t) := by
  refine ⟨fun i hi => h.mono i (hsub i hi), List.forall_mem_cons.mpr ⟨hm.imp_right (h.mono _), fun x hx => ?_⟩⟩
  rcases h.got x hx with e | e
  · exact e ▸ hq.imp_right (h.mono _)
  · exact .inr e

theorem Marks.mark {tr tr' : List Nat} {p : Nat} {m : Msg} {t : List Msg} (h : Marks (addMark tr m.lc) tr' m.lc t) :
    Marks tr tr' p (m :: t) :=
  h.step (fun _ hi => mem_addMark.mpr (.inl hi)) (.inr (mem_addMark.mpr (.inr rfl))) (.inr (mem_addMark.mpr (.inr rfl)))

theorem emit_mark_eq (s : St) (i : Nat) (m : Msg) :
    (s.mark i).emit m = { s with toRefresh := addMark s.toRefresh i, out := outOf s.published m :: s.out } := by
  rw [mark_eq]; rfl

theorem delivered_cons (s : St) (tr0 : List Nat) (m : Msg) (pre : List Msg) (tr : List Nat) (post : List Msg) :
    St.delivered { s with toRefresh := tr0, out := outOf s.published m :: s.out } pre tr post = s.delivered (m :: pre) tr post := by
  simp [St.delivered]

theorem flushAll_go_eq (l : List Msg) (s : St) (last : Nat) :
    ∃ tr, Marks s.toRefresh tr last l ∧ St.flushAll.go s last l = s.delivered l tr [] := by
  induction l generalizing s last with
  | nil => exact ⟨s.toRefresh, .nil _ _, rfl⟩
  | cons m t ih =>
    rw [St.flushAll.go]
    by_cases hm : m.lc = last
    · obtain ⟨tr, h, e⟩ := ih { s with out := outOf s.published m :: s.out } m.lc
      refine ⟨tr, h.step (fun _ h => h) (.inl hm) (.inl hm), ?_⟩
      -- `rewrite`: the `rfl` that `rw` tries afterwards fails, slowly, on the records
      rewrite [if_neg fun h => bne_iff_ne.mp h hm, emit_eq, e]
      exact delivered_cons s s.toRefresh m t tr []
    · obtain ⟨tr, h, e⟩ := ih { s with toRefresh := addMark s.toRefresh m.lc, out := outOf s.published m :: s.out } m.lc
      refine ⟨tr, h.mark, ?_⟩
      rewrite [if_pos (bne_iff_ne.mpr hm), emit_mark_eq, e]
      exact delivered_cons s _ m t tr []

theorem flushAll_eq (s : St) : ∃ tr, Marks s.toRefresh tr 0 s.bufMsgs ∧ s.flushAll = s.delivered s.bufMsgs tr [] :=
  flushAll_go_eq s.bufMsgs s 0

theorem release_go_eq (l : List Msg) (s : St) (p : Nat) :
    ∃ pre post tr, l = pre ++ post ∧ Marks s.toRefresh tr p pre ∧ (∀ m ∈ pre, m.lc = p ∨ m.lc ∉ s.bufLcs) ∧
      (∀ m ∈ post.head?, m.lc ∈ s.bufLcs) ∧ St.release.go s p l = s.delivered pre tr post := by
  fun_induction St.release.go s p l with
  | case1 s p =>
    exact ⟨[], [], s.toRefresh, rfl, .nil _ _, List.forall_mem_nil _, fun _ h => (Option.not_mem_none _ h).elim, rfl⟩
  | case2 s p m t hm ih =>  -- of the confirmed lifecycle
    rw [emit_eq] at ih ⊢
    obtain ⟨pre, post, tr, e, h, hb, hp, eq⟩ := ih
    have hm : m.lc = p := beq_iff_eq.mp hm
    exact ⟨m :: pre, post, tr, congrArg (m :: ·) e, h.step (fun _ h => h) (.inl hm) (.inl rfl),
      List.forall_mem_cons.mpr ⟨.inl hm, hb⟩, hp, eq.trans (delivered_cons s s.toRefresh m pre tr post)⟩
  | case3 s p m t hm hc ih =>  -- of one not buffered: marked
    rw [emit_mark_eq] at ih ⊢
    obtain ⟨pre, post, tr, e, h, hb, hp, eq⟩ := ih
    have hc : m.lc ∉ s.bufLcs := by simpa using hc
    exact ⟨m :: pre, post, tr, congrArg (m :: ·) e, h.mark,
      List.forall_mem_cons.mpr ⟨.inr hc, fun x hx => (hb x hx).elim (fun e => .inr (e ▸ hc)) .inr⟩, hp,
      eq.trans (delivered_cons s _ m pre tr post)⟩
  | case4 s p m t hm hc =>  -- of a buffered one: stop
    refine ⟨[], m :: t, s.toRefresh, rfl, .nil _ _, List.forall_mem_nil _, ?_, rfl⟩
    intro x hx; cases hx; simpa using hc

theorem flushOne_fold_eq (l : List Msg) (s : St) :
    ∃ tr, (∀ i ∈ s.toRefresh, i ∈ tr) ∧ (∀ m ∈ l, m.lc ∈ tr) ∧ l.foldl St.flushOne s = s.delivered l tr s.bufMsgs := by
  induction l generalizing s with
  | nil => exact ⟨s.toRefresh, fun _ h => h, List.forall_mem_nil _, rfl⟩
  | cons m t ih =>
    obtain ⟨tr, h1, h2, e⟩ := ih { s with toRefresh := addMark s.toRefresh m.lc, out := outOf s.published m :: s.out }
    dsimp only at h1  -- the marks of the record, projected once
    refine ⟨tr, fun i hi => h1 i (mem_addMark.mpr (.inl hi)),
      List.forall_mem_cons.mpr ⟨h1 _ (mem_addMark.mpr (.inr rfl)), h2⟩, ?_⟩
    rewrite [List.foldl_cons, St.flushOne, emit_mark_eq, e]
    exact delivered_cons s _ m t tr s.bufMsgs

/-! ### confirmation -/

abbrev St.confirmed (s : St) (lc : Lc) : St :=
  { s with bufLcs := s.bufLcs.erase lc.id, published := applyPending s.published (s.pending ++ [(lc.id, lc)]), pending := [] }

theorem confirmed_published (s : St) (lc : Lc) (hp : s.pending = []) :
    (s.confirmed lc).published = assocSet lc.id lc s.published := by
  show applyPending s.published (s.pending ++ _) = _
  rw [hp]; rfl

/-- what the release after confirming `lc` in `s` goes by: the front `pre` of the queue leaves, with marks `tr` -/
structure Released (s : St) (lc : Lc) (pre post : List Msg) (tr : List Nat) : Prop where
  split : s.bufMsgs = pre ++ post
  marks : Marks s.toRefresh tr lc.id pre
  preFree : ∀ m ∈ pre, m.lc = lc.id ∨ m.lc ∉ s.bufLcs.erase lc.id
  postBuffered : ∀ m ∈ post.head?, m.lc ∈ s.bufLcs.erase lc.id

theorem confirmLc_eq (s : St) (m : Msg) (x : Nat) (lc : Lc) : s.confirmLc m x lc = s ∨
    ∃ pre post tr, Released s lc pre post tr ∧ s.confirmLc m x lc = (s.confirmed lc).delivered pre tr post := by
  fun_cases St.confirmLc s m x lc with
  | case3 =>
    obtain ⟨pre, post, tr, h1, h2, h3, h4, e⟩ := release_go_eq s.bufMsgs (s.confirmed lc) lc.id
    exact .inr ⟨pre, post, tr, ⟨h1, h2, h3, h4⟩, e⟩
  | _ => exact .inl rfl

/-- `confirm` keeps what the release after confirming a live lifecycle keeps, if it does not depend on `nextCheck` -/
theorem confirm_inv {I : St → Prop} (s : St) (m : Msg) (hs : I s)
    (hc : ∀ t lc pre post tr, Live t.ecuMap lc → I t → Released t lc pre post tr → I ((t.confirmed lc).delivered pre tr post))
    (hn : ∀ t n, I t → I { t with nextCheck := n }) : I (s.confirm m) := by
  unfold St.confirm
  by_cases h : s.nextCheck < m.recv
  · rw [if_pos h]
    apply hn
    split
    · refine (foldl_inv (I := fun t => t.ecuMap = s.ecuMap ∧ I t) ?_ ⟨rfl, hs⟩).2
      intro t p hp ht
      refine foldl_inv (I := fun t => t.ecuMap = s.ecuMap ∧ I t) (fun t lc hlc ht => ?_) ht
      rcases confirmLc_eq t m _ lc with e | ⟨pre, post, tr, r, e⟩ <;> rw [e]
      · exact ht
      · exact ⟨ht.1, hc t lc pre post tr (ht.1 ▸ ⟨p, hp, List.mem_reverse.mp hlc⟩) ht.2 r⟩
    · exact hs
  · rwa [if_neg h]

theorem confirm_ecuMap (s : St) (m : Msg) : (s.confirm m).ecuMap = s.ecuMap :=
  confirm_inv (I := fun t => t.ecuMap = s.ecuMap) s m rfl (fun _ _ _ _ _ _ h _ => h) (fun _ _ h => h)

/-! ### merging -/

theorem unpublishIfConfirmed_eq (s : St) (id : Nat) : s.unpublishIfConfirmed id =
    if s.bufLcs.contains id then s else { s with published := assocErase id (applyPending s.published s.pending), pending := [] } := rfl

/-- what `relabel a b` does to one message -/
def rel1 (a b : Nat) (m : Msg) : Msg := if m.lc == a then { m with lc := b } else m

theorem relabel_eq_map (a b : Nat) (ms : List Msg) : relabel a b ms = ms.map (rel1 a b) := rfl

theorem rel1_lc (a b : Nat) (m : Msg) : (rel1 a b m).lc = if m.lc = a then b else m.lc :=
  (apply_ite Msg.lc ..).trans (ite_congr (Nat.beq_eq_true_eq m.lc a) (fun _ => rfl) fun _ => rfl)

theorem rel1_ecu (a b : Nat) (m : Msg) : (rel1 a b m).ecu = m.ecu := by
  unfold rel1; split <;> rfl

/-- `mergeTail` before the final flush -/
abbrev St.merged (s : St) (a b e : Nat) (lcs : List Lc) : St :=
  { s with bufMsgs := relabel a b s.bufMsgs, bufLcs := s.bufLcs.erase a, ecuMap := assocSet e lcs s.ecuMap,
           published := if s.bufLcs.contains a then s.published else assocErase a (applyPending s.published s.pending),
           pending := if s.bufLcs.contains a then s.pending else [] }

/-! both fields are an `if` on `s.bufLcs.contains a`: branch by branch -/

theorem merged_published (s : St) (a b e : Nat) (lcs : List Lc) (hp : s.pending = []) :
    (s.merged a b e lcs).published = if s.bufLcs.contains a then s.published else assocErase a s.published :=
  ite_congr rfl (fun _ => rfl) fun _ => hp ▸ rfl

theorem merged_pending (s : St) (a b e : Nat) (lcs : List Lc) (hp : s.pending = []) : (s.merged a b e lcs).pending = [] :=
  (ite_congr rfl (fun _ => hp) fun _ => rfl).trans (ite_self _)

theorem mergeTail_eq (s : St) (a b e : Nat) (lcs : List Lc) : s.mergeTail a b e lcs = (s.merged a b e lcs).flushIfDrained := by
  by_cases h : s.bufLcs.contains a = true <;>
    simp only [St.mergeTail, St.merged, setEcu, unpublishIfConfirmed_eq, h, if_true, if_false, Bool.false_eq_true]

theorem flushIfDrained_eq (s : St) : s.flushIfDrained = s ∧ (s.bufLcs = [] → s.bufMsgs = []) ∨
    s.bufLcs = [] ∧ ∃ tr, Marks s.toRefresh tr 0 s.bufMsgs ∧ s.flushIfDrained = s.delivered s.bufMsgs tr [] := by
  fun_cases St.flushIfDrained s with
  | case1 h =>
    have hb : s.bufLcs = [] := List.isEmpty_iff.mp (Bool.and_eq_true_iff.mp h).1
    exact .inr ⟨hb, flushAll_eq s⟩
  | case2 h => exact .inl ⟨rfl, fun hb => by simpa [hb] using h⟩

theorem mergeTail_cases (s : St) (a b e : Nat) (lcs : List Lc) :
    s.mergeTail a b e lcs = s.merged a b e lcs ∧ ((s.merged a b e lcs).bufLcs = [] → (s.merged a b e lcs).bufMsgs = []) ∨
    (s.merged a b e lcs).bufLcs = [] ∧ ∃ tr, Marks (s.merged a b e lcs).toRefresh tr 0 (s.merged a b e lcs).bufMsgs ∧
      s.mergeTail a b e lcs = (s.merged a b e lcs).delivered (s.merged a b e lcs).bufMsgs tr [] :=
  mergeTail_eq s a b e lcs ▸ flushIfDrained_eq _

/-! ### assignment -/

theorem update_cases (l : Lc) (id : Nat) (m : Msg) :
    (∃ r, l.update id m = (r, { m with lc := l.id }, none) ∧ r.id = l.id ∧ r.ecu = l.ecu ∧ r.nrMsgs = l.nrMsgs + 1) ∨
    (∃ N, l.update id m = (l, { m with lc := id }, some N) ∧ N.id = id ∧ N.ecu = m.ecu ∧ N.nrMsgs = 1) := by
  unfold Lc.update
  cases l.classify m with
  | fresh r => cases r <;> exact .inr ⟨_, rfl, rfl, rfl, rfl⟩
  | _ => exact .inl ⟨_, rfl, rfl, rfl, rfl⟩

theorem Lc.ite_fields (c : Prop) [d : Decidable c] (x y : Lc) : (if c then y else x) =
    { id := if c then y.id else x.id, ecu := if c then y.ecu else x.ecu, nrMsgs := if c then y.nrMsgs else x.nrMsgs,
      nrCtrl := if c then y.nrCtrl else x.nrCtrl, start := if c then y.start else x.start,
      initStart := if c then y.initStart else x.initStart, minTs := if c then y.minTs else x.minTs,
      maxTs := if c then y.maxTs else x.maxTs, lastRecv := if c then y.lastRecv else x.lastRecv,
      resume := if c then y.resume else x.resume } := by
  cases d <;> rfl

/-- the four conditional updates of `merge` touch different fields, and each test reads a field the earlier ones leave
    alone (splitting the four `if`s gives sixteen cases) -/
theorem merge_eq (l o : Lc) : l.merge o =
    { l with nrMsgs := l.nrMsgs + o.nrMsgs, nrCtrl := l.nrCtrl + o.nrCtrl,
             maxTs := if o.maxTs > l.maxTs then o.maxTs else l.maxTs,
             minTs := if o.minTs < l.minTs then o.minTs else l.minTs,
             start := if o.start < l.start then o.start else l.start,
             initStart := if o.start < l.start then o.initStart else l.initStart,
             lastRecv := if o.lastRecv > l.lastRecv then o.lastRecv else l.lastRecv } := by
  simp only [Lc.merge, Lc.ite_fields, ite_self]

theorem merge_facts (l o : Lc) : (l.merge o).id = l.id ∧ (l.merge o).ecu = l.ecu := by
  rw [merge_eq]; exact ⟨rfl, rfl⟩

theorem oldList_assocSet (em : List (Nat × List Lc)) (e e' : Nat) (L : List Lc) :
    oldList (assocSet e L em) e' = if e' = e then L else oldList em e' := by
  unfold oldList
  rw [assocGet_assocSet, apply_ite (Option.getD · [])]
  rfl

/-! `assign` as equations: the result, given the list of the message's ECU (newest first, as `assign` reads it) and what
    `update` returns for its last lifecycle. -/

theorem assign_first (s : St) (m : Msg) (h : (oldList s.ecuMap m.ecu).reverse = []) :
    s.assign m = (setEcu { s with nextId := s.nextId + 1, bufLcs := s.bufLcs ++ [(Lc.new s.nextId m).1.id] } m.ecu [(Lc.new s.nextId m).1],
      (Lc.new s.nextId m).2) := by
  unfold St.assign
  rw [← oldList, h]
  rfl

theorem assign_fresh (s : St) (m : Msg) (last : Lc) (rest : List Lc) (h : (oldList s.ecuMap m.ecu).reverse = last :: rest)
    (l' : Lc) (m' : Msg) (nl : Lc) (hu : last.update s.nextId m = (l', m', some nl)) :
    s.assign m = (setEcu { s with nextId := s.nextId + 1, bufLcs := s.bufLcs ++ [nl.id] } m.ecu (nl :: l' :: rest).reverse, m') := by
  unfold St.assign
  rw [← oldList, h]
  show s.assignExisting m last rest = _
  unfold St.assignExisting
  rw [hu]

/-- the newest lifecycle takes the message and none is created: alone it stays, otherwise `maybeMerge` decides
    (`generalizing := false` keeps `h`, which mentions `rest`, out of the alternatives) -/
theorem assign_taken (s : St) (m : Msg) (last : Lc) (rest : List Lc) (h : (oldList s.ecuMap m.ecu).reverse = last :: rest)
    (l' : Lc) (m' : Msg) (hu : last.update s.nextId m = (l', m', none)) :
    s.assign m = match (generalizing := false) rest with
      | [] => (setEcu s m.ecu [l'], m')
      | prev :: rest2 => s.maybeMerge m' l' prev rest2 := by
  unfold St.assign
  rw [← oldList, h]
  show s.assignExisting m last rest = _
  unfold St.assignExisting
  rw [hu]
  cases rest <;> rfl

/-- the three tests of `maybeMerge` as one condition: the times ask for a merge, and the one before is still buffered or
    nothing of the last one has been delivered yet -/
theorem maybeMerge_eq (s : St) (m' : Msg) (lc2 prev : Lc) (rest : List Lc) : s.maybeMerge m' lc2 prev rest =
    if (lc2.start ≤ prev.endTime && lc2.resume.isNone && !prev.slightlyOverlapping lc2.start) = true ∧
        (prev.id ∈ s.bufLcs ∨ (s.bufMsgs.filter (fun x => x.lc == lc2.id)).length + 1 = lc2.nrMsgs)
    then (s.mergeTail lc2.id prev.id m'.ecu (prev.merge lc2 :: rest).reverse, { m' with lc := prev.id })
    else (setEcu s m'.ecu (lc2 :: prev :: rest).reverse, m') := by
  fun_cases St.maybeMerge s m' lc2 prev rest with
  | case1 ht hb => exact (if_pos ⟨ht, .inl (List.contains_iff_mem.mp hb)⟩).symm
  | case2 ht hb hn => exact (if_pos ⟨ht, .inr (beq_iff_eq.mp hn)⟩).symm
  | case3 ht hb hn =>
    exact (if_neg fun h => h.2.elim (fun h => hb (List.contains_iff_mem.mpr h)) fun h => hn (beq_iff_eq.mpr h)).symm
  | case4 ht => exact (if_neg fun h => ht h.1).symm

/-- The three shapes of `r = s.assign m`, lists oldest first as the invariants speak of them: a lifecycle with the next id
    is appended and buffered; or the last one takes the message and stays; or it takes the message and is merged into the
    one before it (which is still buffered, or else nothing of the last one has been delivered yet: `buf`). `origin` and
    `upd` say where `N` and `r'` come from. -/
inductive Assigned (s : St) (m : Msg) (r : St × Msg) : Prop
  | append (N : Lc)
      (eq : r = (setEcu { s with nextId := s.nextId + 1, bufLcs := s.bufLcs ++ [s.nextId] } m.ecu
        (oldList s.ecuMap m.ecu ++ [N]), { m with lc := s.nextId }))
      (hid : N.id = s.nextId) (hecu : N.ecu = m.ecu) (hn : N.nrMsgs = 1)
      (origin : oldList s.ecuMap m.ecu = [] ∧ N = (Lc.new s.nextId m).1 ∨
        ∃ pre last, oldList s.ecuMap m.ecu = pre ++ [last] ∧
          last.update s.nextId m = (last, { m with lc := s.nextId }, some N))
  | keep (pre : List Lc) (last r' : Lc) (eq : r = (setEcu s m.ecu (pre ++ [r']), { m with lc := last.id }))
      (hold : oldList s.ecuMap m.ecu = pre ++ [last]) (hid : r'.id = last.id) (hecu : r'.ecu = last.ecu)
      (hn : r'.nrMsgs = last.nrMsgs + 1) (upd : last.update s.nextId m = (r', { m with lc := last.id }, none))
  | merge (pre : List Lc) (prev last r' : Lc)
      (eq : r = (s.mergeTail last.id prev.id m.ecu (pre ++ [prev.merge r']), { m with lc := prev.id }))
      (hold : oldList s.ecuMap m.ecu = pre ++ [prev, last]) (hid : r'.id = last.id) (hecu : r'.ecu = last.ecu)
      (hn : r'.nrMsgs = last.nrMsgs + 1)
      (buf : prev.id ∈ s.bufLcs ∨ (s.bufMsgs.filter (fun x => x.lc == last.id)).length + 1 = r'.nrMsgs)
      (upd : last.update s.nextId m = (r', { m with lc := last.id }, none))

theorem assign_cases (s : St) (m : Msg) : Assigned s m (s.assign m) := by
  cases hL : (oldList s.ecuMap m.ecu).reverse with
  | nil =>
    have hold := List.reverse_eq_nil_iff.mp hL
    exact .append _ (by rw [assign_first s m hL, hold]; rfl) rfl rfl rfl (.inl ⟨hold, rfl⟩)
  | cons last rest =>
    have hold : oldList s.ecuMap m.ecu = rest.reverse ++ [last] := by
      rw [← List.reverse_reverse (oldList _ _), hL, List.reverse_cons]
    rcases update_cases last s.nextId m with ⟨r, hu, h1, h2, h3⟩ | ⟨N, hu, h1, h2, h3⟩
    · cases rest with
      | nil => exact .keep [] last r (assign_taken s m last [] hL r _ hu) hold h1 h2 h3 hu
      | cons prev rest2 =>
        rw [show s.assign m = s.maybeMerge _ r prev rest2 from assign_taken s m last _ hL r _ hu, maybeMerge_eq,
          List.reverse_cons, List.reverse_cons]
        split
        · rename_i hc
          exact .merge rest2.reverse prev last r (by rw [h1]) (by rw [hold]; simp) h1 h2 h3 (h1 ▸ hc.2) hu
        · exact .keep _ last r rfl hold h1 h2 h3 hu
    · refine .append N ?_ h1 h2 h3 (.inr ⟨_, last, hold, hu⟩)
      rw [assign_fresh s m last rest hL _ _ _ hu, hold, h1]; simp

/-! ### one message, and all of them -/

theorem deliver_eq (s : St) (m : Msg) : s.bufLcs ≠ [] ∧ s.deliver m = { s with bufMsgs := s.bufMsgs ++ [m] } ∨
    s.bufLcs = [] ∧ s.deliver m = s.delivered [m] (addMark s.toRefresh m.lc) s.bufMsgs := by
  fun_cases St.deliver s m with
  | case1 h => exact .inl ⟨by simpa using h, rfl⟩
  | case2 h => exact .inr ⟨by simpa using h, emit_mark_eq s m.lc m⟩

theorem mergeTail_panicked (s : St) (a b e : Nat) (lcs : List Lc) : (s.mergeTail a b e lcs).panicked = s.panicked := by
  rcases mergeTail_cases s a b e lcs with ⟨e, _⟩ | ⟨_, _, _, e⟩ <;> rw [e]

theorem assign_panicked (s : St) (m : Msg) : (s.assign m).1.panicked = s.panicked := by
  cases assign_cases s m with
  | append _ eq => rw [eq]; rfl
  | keep _ _ _ eq => rw [eq]; rfl
  -- `(_, _).1` is reduced first: left to the unifier, it unfolds `mergeTail`
  | merge _ _ _ _ eq => rw [eq]; dsimp only; exact mergeTail_panicked ..

theorem confirm_panicked (s : St) (m : Msg) : (s.confirm m).panicked = s.panicked :=
  confirm_inv (I := fun t => t.panicked = s.panicked) s m rfl (fun _ _ _ _ _ _ h _ => h) (fun _ _ h => h)

theorem deliver_panicked (s : St) (m : Msg) : (s.deliver m).panicked = s.panicked := by
  rcases deliver_eq s m with ⟨_, e⟩ | ⟨_, e⟩ <;> rw [e]

/-- the `panicked` guards of `step` never fire: no operation sets the flag -/
theorem step_eq (s : St) (m : Msg) (h : s.panicked = false) :
    s.step m = ((s.assign m).1.confirm (s.assign m).2).deliver (s.assign m).2 := by
  unfold St.step
  rw [if_neg (h ▸ Bool.false_ne_true)]
  exact if_neg (by simp [assign_panicked, h])

theorem step_panicked_keep (s : St) (m : Msg) (h : s.panicked = true) : s.step m = s := by
  unfold St.step; simp [h]

/-- a step does nothing, or assigns, confirms and delivers: what holds of `s` and of that state holds after the step -/
theorem step_inv {I : St → Prop} (s : St) (m : Msg) (hs : I s)
    (h : I (((s.assign m).1.confirm (s.assign m).2).deliver (s.assign m).2)) : I (s.step m) := by
  cases hp : s.panicked with
  | false => rwa [step_eq s m hp]
  | true => rw [step_panicked_keep s m hp]; exact hs

theorem step_panicked (s : St) (m : Msg) : (s.step m).panicked = s.panicked :=
  step_inv (I := fun t => t.panicked = s.panicked) s m rfl (by rw [deliver_panicked, confirm_panicked, assign_panicked])

theorem steps_panicked (ms : List Msg) (s : St) : (ms.foldl St.step s).panicked = s.panicked :=
  foldl_inv (I := fun t => t.panicked = s.panicked) (fun t m _ h => (step_panicked t m).trans h) rfl

/-- Induction over a run of steps from an unpanicked state: `R t l` relates the state to the messages taken in so far. -/
theorem steps_ind {R : St → List Msg → Prop} (ms : List Msg) (s : St) (hp : s.panicked = false) (hs : R s [])
    (hstep : ∀ t l m, R t l → R (((t.assign m).1.confirm (t.assign m).2).deliver (t.assign m).2) (l ++ [m])) :
    R (ms.foldl St.step s) ms := by
  suffices h : ∀ (ms l : List Msg) (t : St), t.panicked = false → R t l → R (ms.foldl St.step t) (l ++ ms) from
    h ms [] s hp hs
  intro ms
  induction ms with
  | nil => intro l t hp ht; rwa [List.append_nil]
  | cons m ms ih =>
    intro l t hp ht
    have := ih (l ++ [m]) (t.step m) ((step_panicked t m).trans hp) (step_eq t m hp ▸ hstep t l m ht)
    rwa [List.append_assoc] at this

/-! ### the end of the stream -/

/-- what `publishWhere` queues when the predicate does not look at the queue itself -/
def entriesOf (P : Lc → Bool) (em : List (Nat × List Lc)) : List (Nat × Lc) :=
  em.flatMap fun p => (p.2.reverse.filter P).map fun lc => (lc.id, lc)

theorem publishWhere_eq (P : St → Lc → Bool) (hP : ∀ (x : St) (pend : List (Nat × Lc)) lc, P { x with pending := pend } lc = P x lc)
    (s : St) : s.publishWhere P = { s with pending := s.pending ++ entriesOf (P s) s.ecuMap } := by
  have inner : ∀ (l : List Lc) (x : St), l.foldl (St.publishIf P) x
      = { x with pending := x.pending ++ (l.filter (P x)).map fun lc => (lc.id, lc) } := by
    intro l
    induction l with
    | nil => intro x; simp
    | cons a t ih =>
      intro x
      rw [List.foldl_cons, ih, St.publishIf, List.filter_cons]
      split
      · rw [St.publish, funext (hP x _)]; simp
      · rfl
  have outer : ∀ (ps : List (Nat × List Lc)) (x : St), ps.foldl (St.publishLcs P) x
      = { x with pending := x.pending ++ entriesOf (P x) ps } := by
    intro ps
    induction ps with
    | nil => intro x; simp [entriesOf]
    | cons p t ih =>
      intro x
      have hPe : P { x with pending := x.pending ++ (p.2.reverse.filter (P x)).map fun lc => (lc.id, lc) } = P x :=
        funext (hP x _)
      rw [List.foldl_cons, ih, St.publishLcs, inner, hPe]
      simp [entriesOf]
  exact outer _ _

theorem finish_eq (s : St) (h : s.panicked = false) :
    ∃ tr : List Nat, (∀ i ∈ s.toRefresh, i ∈ tr) ∧ (∀ m ∈ s.bufMsgs, m.lc ∈ tr) ∧
      s.finish = { s with
        published := applyPending
          (applyPending s.published (s.pending ++ entriesOf (fun lc => s.bufLcs.contains lc.id) s.ecuMap))
          (entriesOf (fun lc => tr.contains lc.id) s.ecuMap)
        pending := []
        out := (s.bufMsgs.map (outOf
          (applyPending s.published (s.pending ++ entriesOf (fun lc => s.bufLcs.contains lc.id) s.ecuMap)))).reverse ++ s.out
        bufMsgs := [], toRefresh := [] } := by
  unfold St.finish
  rw [if_neg (h ▸ Bool.false_ne_true)]
  simp only [publishWhere_eq (fun s lc => s.bufLcs.contains lc.id) (fun _ _ _ => rfl),
    publishWhere_eq (fun s lc => s.toRefresh.contains lc.id) (fun _ _ _ => rfl), refresh_eq]
  obtain ⟨tr, h1, h2, e⟩ := flushOne_fold_eq s.bufMsgs { s with
    published := applyPending s.published (s.pending ++ entriesOf (fun lc => s.bufLcs.contains lc.id) s.ecuMap), pending := [] }
  refine ⟨tr, h1, h2, ?_⟩
  rewrite [e]
  rfl

/-! ### only `assign` writes the per-ECU map -/

theorem mergeTail_ecuMap (s : St) (a b e : Nat) (lcs : List Lc) :
    (s.mergeTail a b e lcs).ecuMap = assocSet e lcs s.ecuMap := by
  rcases mergeTail_cases s a b e lcs with ⟨e', _⟩ | ⟨_, _, _, e'⟩ <;> rw [e']

theorem mergeTail_nextId (s : St) (a b e : Nat) (lcs : List Lc) : (s.mergeTail a b e lcs).nextId = s.nextId := by
  rcases mergeTail_cases s a b e lcs with ⟨e', _⟩ | ⟨_, _, _, e'⟩ <;> rw [e']

theorem deliver_ecuMap (s : St) (m : Msg) : (s.deliver m).ecuMap = s.ecuMap := by
  rcases deliver_eq s m with ⟨_, e⟩ | ⟨_, e⟩ <;> rw [e]

theorem finish_ecuMap (s : St) : s.finish.ecuMap = s.ecuMap := by
  cases h : s.panicked with
  | false => obtain ⟨_, _, _, e⟩ := finish_eq s h; rw [e]
  | true => rw [St.finish, if_pos h]

/-- the map at the end of a stream, by induction over the assignments alone (`pre` = the messages taken in so far) -/
theorem run_ecuMap_ind (I : List Msg → List (Nat × List Lc) → Prop) (h0 : I [] [])
    (ha : ∀ (pre : List Msg) (s : St) (m : Msg), I pre s.ecuMap → I (pre ++ [m]) (s.assign m).1.ecuMap) (ms : List Msg) :
    I ms (run ms).ecuMap := by
  rw [run, finish_ecuMap]
  exact steps_ind (R := fun t l => I l t.ecuMap) ms {} rfl h0 fun t l m ht => by
    rw [deliver_ecuMap, confirm_ecuMap]; exact ha l t m ht

/-! No operation of the model sets `panicked` (the assertion it stood for left the code with fix cf29dd5 in /repo), so
    `(run ms).panicked = false` for every stream. -/

theorem finish_panicked (s : St) : s.finish.panicked = s.panicked := by
  cases h : s.panicked with
  | false => obtain ⟨_, _, _, e⟩ := finish_eq s h; rw [e]; exact h
  | true => rw [St.finish, if_pos h, h]

@[simp] theorem emit_panicked (s : St) (m : Msg) : (s.emit m).panicked = s.panicked := rfl
@[simp] theorem refresh_panicked (s : St) : s.refresh.panicked = s.panicked := rfl
@[simp] theorem publish_panicked (s : St) (l : Lc) : (s.publish l).panicked = s.panicked := rfl
@[simp] theorem setEcu_panicked (s : St) (e : Nat) (l : List Lc) : (setEcu s e l).panicked = s.panicked := rfl

/-- the model of `parse_lifecycles_buffered_from_stream` never stops at an internal assertion -/
theorem run_not_panicked (ms : List Msg) : (run ms).panicked = false := by
  rw [run, finish_panicked, steps_panicked]

end Lcm
