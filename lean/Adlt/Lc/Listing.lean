/-! Model of `get_sorted_lifecycles_as_vec` (src/lifecycle/mod.rs): the table sorted with `sort_by_cached_key` by the key
    (`effective_start_time`, id) - a stable sort; for a comparator that is a total preorder every stable sort returns the
    same list, so insertion sort (`insertBy`, `isortStable`) is a faithful model exactly then (`keyLe_totalPre`: it is one).
    The lemmas about `insertBy` / `isortStable` hold for any comparator and also serve the insertion sorts of Sort and
    Convert. `Spec.*` are the executable checks the driver evaluates on the implementation's listing. -/
namespace Lcm

/-- the view of a table entry the comparator looks at -/
structure LcE where
  id : Nat
  start : Nat
  resume : Option Nat   -- id of the lifecycle it resumes
deriving Repr, DecidableEq

/-- `effective_start_time`: max of the own start and the starts of all lifecycles it resumes, directly or
    indirectly, as far as they are (still) in the table and have a smaller id (the Rust loop stops otherwise) -/
def effStart (t : List LcE) (lc : LcE) : Nat :=
  match lc.resume with
  | none => lc.start
  | some r =>
    match t.find? (·.id == r) with
    | some o => if _h : o.id < lc.id then max lc.start (effStart t o) else lc.start
    | none => lc.start
termination_by lc.id

/-- `(effective_start_time(a), a.id) ≤ (effective_start_time(b), b.id)` (tuple order used by `sort_by_cached_key`) -/
def keyLe (t : List LcE) (a b : LcE) : Bool :=
  effStart t a < effStart t b || (effStart t a == effStart t b && a.id ≤ b.id)

def insertBy (le : α → α → Bool) (x : α) : List α → List α
  | [] => [x]
  | y :: t => if le y x then y :: insertBy le x t else x :: y :: t   -- stable: x goes after equal elements

def isort (le : α → α → Bool) : List α → List α
  | [] => []
  | x :: t => insertBy le x (isort le t)

def isortStable (le : α → α → Bool) (l : List α) : List α := l.foldl (fun acc x => insertBy le x acc) []

def listing (t : List LcE) : List LcE := isortStable (keyLe t) t

theorem insertBy_perm (le : α → α → Bool) (x : α) (l : List α) : (insertBy le x l).Perm (x :: l) := by
  fun_induction insertBy le x l with
  | case1 | case3 => exact .refl _
  | case2 y t _ ih => exact (ih.cons y).trans (.swap x y t)

theorem foldl_perm {σ β} {f : σ → β → σ} {g : σ → List β} (h : ∀ s a, (g (f s a)).Perm (g s ++ [a])) (l : List β) (s : σ) :
    (g (l.foldl f s)).Perm (g s ++ l) := by
  induction l generalizing s with
  | nil => rw [List.append_nil]; exact .refl _
  | cons a t ih => exact (ih _).trans (((h s a).append_right t).trans (.of_eq (List.append_assoc ..)))

theorem isortStable_perm (le : α → α → Bool) (l : List α) : (isortStable le l).Perm l :=
  foldl_perm (g := id) (fun acc x => (insertBy_perm le x acc).trans (List.perm_append_singleton x acc).symm) l []

def TotalPreOn (le : α → α → Bool) (S : List α) : Prop :=
  (∀ a ∈ S, ∀ b ∈ S, le a b = true ∨ le b a = true) ∧
  (∀ a ∈ S, ∀ b ∈ S, ∀ c ∈ S, le a b = true → le b c = true → le a c = true)

theorem mem_insertBy (le : α → α → Bool) (x y : α) (l : List α) : y ∈ insertBy le x l ↔ y = x ∨ y ∈ l := by
  rw [(insertBy_perm le x l).mem_iff, List.mem_cons]

/-- inserting keeps a list pairwise related by `R`, if `le` decides on which side of `x` each member of the list belongs -/
theorem insertBy_pairwise (R : α → α → Prop) (le : α → α → Bool) (x : α) (l : List α) (hs : l.Pairwise R)
    (hl : ∀ y ∈ l, le y x = true → R y x) (hr : ∀ y ∈ l, ¬ le y x = true → R x y)
    (ht : ∀ y ∈ l, ∀ z ∈ l, R x y → R y z → R x z) : (insertBy le x l).Pairwise R := by
  fun_induction insertBy le x l with
  | case1 => exact List.pairwise_singleton R x
  | case2 y t h ih =>
    have ⟨hy, hst⟩ := List.pairwise_cons.mp hs
    refine List.pairwise_cons.mpr ⟨fun z hz => ?_, ih hst (fun z hz => hl z (.tail _ hz)) (fun z hz => hr z (.tail _ hz))
      (fun a ha b hb => ht a (.tail _ ha) b (.tail _ hb))⟩
    rcases (mem_insertBy le x z t).mp hz with rfl | hz
    · exact hl y (.head _) h
    · exact hy z hz
  | case3 y t h =>
    have hxy := hr y (.head _) h
    refine List.pairwise_cons.mpr ⟨fun z hz => ?_, hs⟩
    rcases List.mem_cons.mp hz with rfl | hz
    · exact hxy
    · exact ht y (.head _) z (.tail _ hz) hxy ((List.pairwise_cons.mp hs).1 z hz)

theorem insertBy_sorted (le : α → α → Bool) (S : List α) (h : TotalPreOn le S) (x : α) (l : List α)
    (hx : x ∈ S) (hl : ∀ y ∈ l, y ∈ S) (hs : l.Pairwise (fun a b => le a b = true)) :
    (insertBy le x l).Pairwise (fun a b => le a b = true) :=
  insertBy_pairwise _ le x l hs (fun _ _ e => e) (fun y hy e => (h.1 x hx y (hl y hy)).resolve_right e)
    (fun y hy z hz => h.2 x hx y (hl y hy) z (hl z hz))

theorem isortStable_sorted (le : α → α → Bool) (l : List α) (h : TotalPreOn le l) :
    (isortStable le l).Pairwise (fun a b => le a b = true) :=
  -- along the fold the accumulator stays a sorted list of members of `l`
  (List.foldlRecOn l _ (motive := fun acc => (∀ y ∈ acc, y ∈ l) ∧ acc.Pairwise (fun a b => le a b = true))
    ⟨fun _ hy => (List.not_mem_nil hy).elim, .nil⟩ fun acc ⟨ha, hs⟩ x hx =>
      ⟨fun y hy => ((mem_insertBy le x y acc).mp hy).elim (fun e => e ▸ hx) (ha y),
        insertBy_sorted le l h x acc hx ha hs⟩).2

instance (le : α → α → Bool) (S : List α) : Decidable (TotalPreOn le S) := by
  unfold TotalPreOn; infer_instance

/-- `(x, i) ≤ (y, j)` in the order of pairs: the shape of the sort key here (effective start, id) and of the time sort's
    (calculated time, arrival number) -/
def LexLe (x i y j : Nat) : Prop := x < y ∨ x = y ∧ i ≤ j

theorem LexLe.trans {x i y j z k : Nat} (h1 : LexLe x i y j) (h2 : LexLe y j z k) : LexLe x i z k := by
  rcases h1 with h1 | ⟨e1, s1⟩ <;> rcases h2 with h2 | ⟨e2, s2⟩
  · exact .inl (Nat.lt_trans h1 h2)
  · exact .inl (e2 ▸ h1)
  · exact .inl (e1 ▸ h2)
  · exact .inr ⟨e1.trans e2, Nat.le_trans s1 s2⟩

theorem LexLe.total (x i y j : Nat) : LexLe x i y j ∨ LexLe y j x i := by
  rcases Nat.lt_trichotomy x y with h | h | h
  · exact .inl (.inl h)
  · exact (Nat.le_total i j).imp (fun s => .inr ⟨h, s⟩) (fun s => .inr ⟨h.symm, s⟩)
  · exact .inr (.inl h)

theorem keyLe_iff (t : List LcE) (a b : LcE) : keyLe t a b = true ↔ LexLe (effStart t a) a.id (effStart t b) b.id := by
  simp only [keyLe, LexLe, Bool.or_eq_true, decide_eq_true_eq, Bool.and_eq_true, beq_iff_eq]

theorem keyLe_totalPre (t S : List LcE) : TotalPreOn (keyLe t) S :=
  ⟨fun a _ b _ => by rw [keyLe_iff, keyLe_iff]; exact LexLe.total ..,
   fun a _ b _ c _ => by rw [keyLe_iff, keyLe_iff, keyLe_iff]; exact LexLe.trans⟩

theorem effStart_none (t : List LcE) (e : LcE) (h : e.resume = none) : effStart t e = e.start := by
  unfold effStart; simp [h]

theorem find_id_unique (t : List LcE) (hnd : (t.map (·.id)).Nodup) (a : LcE) (ha : a ∈ t) :
    t.find? (·.id == a.id) = some a := by
  obtain ⟨s, u, rfl⟩ := List.append_of_mem ha
  rw [List.map_append, List.map_cons, List.nodup_append] at hnd
  -- the entries in front of `a` have other ids
  refine List.find?_eq_some_iff_append.mpr ⟨beq_iff_eq.mpr rfl, s, u, rfl, fun x hx => ?_⟩
  exact Bool.not_eq_true' _ ▸ beq_false_of_ne (hnd.2.2 x.id (List.mem_map_of_mem hx) a.id List.mem_cons_self)

theorem effStart_resumes (t : List LcE) (hnd : (t.map (·.id)).Nodup) (a b : LcE) (ha : a ∈ t)
    (hres : b.resume = some a.id) (hid : a.id < b.id) : effStart t b = max b.start (effStart t a) := by
  rw [effStart]; simp [hres, find_id_unique t hnd a ha, hid]

namespace Spec
/-- every table id exactly once in the listing -/
def listOnce (tblIds : List Nat) (L : List LcE) : Bool :=
  L.length == tblIds.length && tblIds.all fun i => (L.filter (·.id == i)).length == 1
/-- no resumed lifecycle is placed before the lifecycle it resumes -/
def resumeAfterOrigin (L : List LcE) : Bool :=
  L.zipIdx.all fun (b, j) => match b.resume with
    | none => true
    | some r => L.zipIdx.all fun (a, i) => a.id != r || a.id == b.id || i < j
/-- a resumed lifecycle has a higher id than the one it resumes -/
def resumeIdsIncrease (L : List LcE) : Bool :=
  L.all fun b => match b.resume with
    | none => true
    | some r => r < b.id
def sortedByStart : List LcE → Bool
  | a :: b :: t => a.start ≤ b.start && sortedByStart (b :: t)
  | _ => true
/-- when no resume was detected the listing is ordered by start time -/
def sortedIfNoResume (L : List LcE) : Bool := L.any (·.resume.isSome) || sortedByStart L
end Spec
end Lcm
