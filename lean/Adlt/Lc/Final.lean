import Adlt.Lc.IdPos
/-! C07 (counts, part 2): at the end of every stream the published table *is* the live table: every live lifecycle is
    listed with its current value, every listed entry is a live lifecycle (no merged one), ids are listed once.

    Invariant `FInv s Q` (Q = the messages still to be delivered: queue ++ the one in flight): every confirmed live
    lifecycle is published with its current value, or is marked for re-publication, or still has a message in Q -
    and such a message is only ever delivered together with a mark, or right after its lifecycle was published. -/
namespace Lcm

theorem map_inj_of_nodup {α β} (f : α → β) (l : List α) (h : (l.map f).Nodup) (a b : α) (ha : a ∈ l) (hb : b ∈ l)
    (hf : f a = f b) : a = b :=
  have hp : l.Pairwise fun a b => f a ≠ f b := List.pairwise_map.mp h
  List.Pairwise.forall_of_forall_of_flip (R := fun a b => f a = f b → a = b) (fun _ _ _ => rfl)
    (hp.imp fun hne e => absurd e hne) (hp.imp fun hne e => absurd e.symm hne) ha hb hf

theorem live_id_unique (em : List (Nat × List Lc)) (n : Nat) (hm : MapInv em n) (a b : Lc) (ha : Live em a) (hb : Live em b)
    (h : a.id = b.id) : a = b := by
  have he := hm.uniq a b ha hb h
  have ha' := live_oldList em n a.ecu hm a ha rfl
  have hb' := live_oldList em n a.ecu hm b hb he.symm
  exact map_inj_of_nodup Lc.id _ (oldList_nodup em n hm a.ecu) a b ha' hb' h

/-- a confirmed live lifecycle is listed with its current value, or marked for re-publication, or has a message in `Q` -/
def Fresh (s : St) (Q : List Msg) : Prop :=
  ∀ lc, Live s.ecuMap lc → lc.id ∉ s.bufLcs →
    assocGet lc.id s.published = some lc ∨ lc.id ∈ s.toRefresh ∨ ∃ m ∈ Q, m.lc = lc.id

structure FInv (s : St) (Q : List Msg) : Prop where
  keys : (keys s.published).Nodup                               -- an id is listed once
  pubLive : ∀ kv ∈ s.published, (∃ lc, Live s.ecuMap lc ∧ lc.id = kv.1) ∧ kv.1 ∉ s.bufLcs   -- listed: live and confirmed
  bufNodup : s.bufLcs.Nodup
  bufLive : ∀ i ∈ s.bufLcs, ∃ lc, Live s.ecuMap lc ∧ lc.id = i   -- buffered: live
  fresh : Fresh s Q

/-- The front of the queue is delivered; table, map and buffered set stay. A message may leave `Q` if it is among the
    delivered ones: its id is then marked, or it is `p`, whose lifecycle is in the table with its value or marked. -/
theorem finv_delivered (s : St) (Q Q' : List Msg) (h : FInv s Q) (pre : List Msg) (tr : List Nat) (post : List Msg) (p : Nat)
    (hm : Marks s.toRefresh tr p pre) (hq : ∀ m ∈ Q, m ∈ Q' ∨ m ∈ pre)
    (hp : ∀ lc, Live s.ecuMap lc → lc.id = p → assocGet lc.id s.published = some lc ∨ lc.id ∈ tr) :
    FInv (s.delivered pre tr post) Q' := by
  refine ⟨h.keys, h.pubLive, h.bufNodup, h.bufLive, fun lc hl hnb => ?_⟩
  rcases h.fresh lc hl hnb with h1 | h1 | ⟨m, hm', hml⟩
  · exact .inl h1
  · exact .inr (.inl (hm.mono _ h1))
  · rcases hq m hm' with h2 | h2
    · exact .inr (.inr ⟨m, h2, hml⟩)
    · rcases hm.got m h2 with h3 | h3
      · exact (hp lc hl (hml.symm.trans h3)).imp_right .inl
      · exact .inr (.inl (hml ▸ h3))

theorem mark_core (s : St) (i : Nat) :
    (s.mark i).published = s.published ∧ (s.mark i).ecuMap = s.ecuMap ∧ (s.mark i).bufLcs = s.bufLcs := by
  rw [mark_eq]; exact ⟨rfl, rfl, rfl⟩

theorem mem_erase_nodup (l : List Nat) (a b : Nat) (h : l.Nodup) : b ∈ l.erase a ↔ b ∈ l ∧ b ≠ a :=
  h.mem_erase_iff.trans and_comm

theorem released_finv (s : St) (lc : Lc) (pre post : List Msg) (tr : List Nat) (extra : List Msg) (hi : LInv s)
    (h : FInv s (s.bufMsgs ++ extra)) (hlive : Live s.ecuMap lc) (r : Released s lc pre post tr) :
    FInv ((s.confirmed lc).delivered pre tr post) (post ++ extra) := by
  have hpub := confirmed_published s lc hi.pend
  have hmem := mem_erase_nodup s.bufLcs lc.id
  have h1 : FInv (s.confirmed lc) (s.bufMsgs ++ extra) := by
    refine ⟨?_, ?_, h.bufNodup.erase _, fun i hi' => h.bufLive i ((hmem _ h.bufNodup).mp hi').1, ?_⟩
    · exact hpub.symm ▸ keys_assocSet_nodup _ _ _ h.keys
    · intro kv hkv
      rw [hpub, mem_assocSet lc.id lc s.published h.keys] at hkv
      rcases hkv with rfl | ⟨hkv, hne⟩
      · exact ⟨⟨lc, hlive, rfl⟩, fun hc => ((hmem _ h.bufNodup).mp hc).2 rfl⟩
      · exact (h.pubLive kv hkv).imp_right fun b hc => b ((hmem _ h.bufNodup).mp hc).1
    · intro lc' hl' hnb
      rw [hpub, assocGet_assocSet]
      by_cases hid : lc'.id = lc.id
      · rw [if_pos hid, live_id_unique s.ecuMap s.nextId hi.map lc' lc hl' hlive hid]; exact .inl rfl
      · rw [if_neg hid]
        exact h.fresh lc' hl' fun hc => hnb ((hmem _ h.bufNodup).mpr ⟨hc, hid⟩)
  refine finv_delivered _ _ _ h1 pre tr post lc.id r.marks (fun m hm => ?_) fun lc' hl' hid => .inl ?_
  · rw [r.split, List.append_assoc] at hm
    exact (List.mem_append.mp hm).symm
  · rw [hpub, assocGet_assocSet, if_pos hid, live_id_unique s.ecuMap s.nextId hi.map lc' lc hl' hlive hid]

theorem confirmLc_finv (s : St) (m : Msg) (x : Nat) (lc : Lc) (extra : List Msg) (hi : LInv s)
    (h : FInv s (s.bufMsgs ++ extra)) (hlive : Live s.ecuMap lc) :
    FInv (s.confirmLc m x lc) ((s.confirmLc m x lc).bufMsgs ++ extra) := by
  rcases confirmLc_eq s m x lc with e | ⟨pre, post, tr, r, e⟩ <;> rw [e]
  · exact h
  · exact released_finv s lc pre post tr extra hi h hlive r

theorem confirm_finv (s : St) (m : Msg) (extra : List Msg) (hi : LInv s) (h : FInv s (s.bufMsgs ++ extra)) :
    FInv (s.confirm m) ((s.confirm m).bufMsgs ++ extra) :=
  (confirm_inv (I := fun t => LInv t ∧ FInv t (t.bufMsgs ++ extra)) s m ⟨hi, h⟩
    (fun t lc pre post tr hl ht r => ⟨released_linv t lc pre post tr ht.1 hl r, released_finv t lc pre post tr extra ht.1 ht.2 hl r⟩)
    (fun _ _ ht => ⟨⟨ht.1.map, ht.1.msgs, ht.1.pub, ht.1.pend, ht.1.vis⟩,
      ⟨ht.2.keys, ht.2.pubLive, ht.2.bufNodup, ht.2.bufLive, ht.2.fresh⟩⟩)).2

theorem deliver_finv (s : St) (m : Msg) (h : FInv s (s.bufMsgs ++ [m])) : FInv (s.deliver m) (s.deliver m).bufMsgs := by
  rcases deliver_eq s m with ⟨_, e⟩ | ⟨_, e⟩ <;> rw [e]
  · exact ⟨h.keys, h.pubLive, h.bufNodup, h.bufLive, h.fresh⟩
  · refine finv_delivered s _ _ h [m] _ s.bufMsgs m.lc (Marks.nil _ _).mark (fun x hx => List.mem_append.mp hx)
      fun lc _ hid => .inr ?_
    exact mem_addMark.mpr (.inr hid)

theorem pub_lt (s : St) (Q : List Msg) (hi : LInv s) (h : FInv s Q) (kv : Nat × Lc) (hkv : kv ∈ s.published) : kv.1 < s.nextId := by
  obtain ⟨⟨lc, hl, hid⟩, _⟩ := h.pubLive kv hkv
  exact hid ▸ hi.map.fresh lc hl

theorem buf_lt (s : St) (Q : List Msg) (hi : LInv s) (h : FInv s Q) (i : Nat) (hb : i ∈ s.bufLcs) : i < s.nextId := by
  obtain ⟨lc, hl, hid⟩ := h.bufLive i hb
  exact hid ▸ hi.map.fresh lc hl

/-- The list of ECU `e` is replaced by `L'` (`hem`): ids are kept (value possibly changed, then a message of that id is in the
    new queue: `hL2`, `hL3`), one is dropped (`dropId`, merged away; no other ECU has it: `hdropE`) or new (`newIds`, buffered:
    `hnew`). The table loses at most the entry of `dropId` (`hk`, `hsub`, `hget`), marks only grow (`htr`), the buffered set
    changes by exactly these ids (`hbn`, `hb1`, `hb2`), and a message leaves the queue only with a mark (`hq`). -/
theorem finv_replace (s s' : St) (Q Q' : List Msg) (hi : LInv s) (h : FInv s Q) (e : Nat) (L' : List Lc) (dropId : Nat)
    (newIds : List Nat)
    (hem : s'.ecuMap = assocSet e L' s.ecuMap)
    (hk : (keys s'.published).Nodup)
    (hsub : ∀ kv ∈ s'.published, kv ∈ s.published ∧ kv.1 ≠ dropId)
    (hget : ∀ k, k ≠ dropId → assocGet k s'.published = assocGet k s.published)
    (htr : ∀ i ∈ s.toRefresh, i ∈ s'.toRefresh)
    (hbn : s'.bufLcs.Nodup)
    (hb1 : ∀ i ∈ s'.bufLcs, (i ∈ s.bufLcs ∧ i ≠ dropId) ∨ i ∈ newIds)
    (hb2 : ∀ i ∈ s.bufLcs, i ≠ dropId → i ∈ s'.bufLcs)
    (hnew : ∀ i ∈ newIds, s.nextId ≤ i ∧ i ∈ s'.bufLcs ∧ ∃ lc ∈ L', lc.id = i)
    (hL2 : ∀ lc ∈ L', lc.id ∈ newIds ∨
      (∃ a0 ∈ oldList s.ecuMap e, a0.id = lc.id ∧ lc.id ≠ dropId ∧ (a0 = lc ∨ ∃ m ∈ Q', m.lc = lc.id)))
    (hL3 : ∀ a0 ∈ oldList s.ecuMap e, a0.id ≠ dropId → ∃ lc ∈ L', lc.id = a0.id)
    (hdropE : ∀ lc, Live s.ecuMap lc → lc.ecu ≠ e → lc.id ≠ dropId)
    (hq : ∀ m ∈ Q, m.lc ≠ dropId → (∃ m2 ∈ Q', m2.lc = m.lc) ∨ m.lc ∈ s'.toRefresh) :
    FInv s' Q' := by
  have hlive := live_setEcu s.ecuMap s.nextId e hi.map L'
  -- a live lifecycle of the old state whose id is not dropped has a successor with the same id
  have succ : ∀ i, (∃ lc, Live s.ecuMap lc ∧ lc.id = i) → i ≠ dropId → ∃ lc', Live s'.ecuMap lc' ∧ lc'.id = i := by
    rintro _ ⟨lc, hl, rfl⟩ hne
    by_cases he : lc.ecu = e
    · obtain ⟨lc', hlc', hid⟩ := hL3 lc (live_oldList _ _ e hi.map lc hl he) hne
      exact ⟨lc', hem.symm ▸ (hlive lc').mpr (.inl hlc'), hid⟩
    · exact ⟨lc, hem.symm ▸ (hlive lc).mpr (.inr ⟨hl, he⟩), rfl⟩
  -- an unchanged confirmed lifecycle stays fresh
  have keep : ∀ lc, Live s.ecuMap lc → lc.id ≠ dropId → lc.id ∉ s'.bufLcs →
      assocGet lc.id s'.published = some lc ∨ lc.id ∈ s'.toRefresh ∨ ∃ m ∈ Q', m.lc = lc.id := by
    intro lc hl hne hnb
    have hnb0 : lc.id ∉ s.bufLcs := fun hc => hnb (hb2 _ hc hne)
    rcases h.fresh lc hl hnb0 with h1 | h1 | ⟨m, hm, hml⟩
    · exact .inl ((hget _ hne).trans h1)
    · exact .inr (.inl (htr _ h1))
    · rcases hq m hm (hml.symm ▸ hne) with ⟨m2, hm2, h2⟩ | h2
      · exact .inr (.inr ⟨m2, hm2, h2.trans hml⟩)
      · exact .inr (.inl (hml ▸ h2))
  refine ⟨hk, ?_, hbn, ?_, ?_⟩
  · intro kv hkv
    obtain ⟨hkv0, hne⟩ := hsub kv hkv
    refine ⟨succ _ (h.pubLive kv hkv0).1 hne, fun hc => ?_⟩
    rcases hb1 _ hc with ⟨hc1, _⟩ | hc2
    · exact (h.pubLive kv hkv0).2 hc1
    · exact Nat.lt_irrefl _ (Nat.lt_of_lt_of_le (pub_lt s Q hi h kv hkv0) (hnew _ hc2).1)
  · intro i hi'
    rcases hb1 i hi' with ⟨h1, hne⟩ | h2
    · exact succ i (h.bufLive i h1) hne
    · obtain ⟨_, _, lc, hlc, hid⟩ := hnew i h2
      exact ⟨lc, hem.symm ▸ (hlive lc).mpr (.inl hlc), hid⟩
  · intro lc hl hnb
    rw [hem] at hl
    rcases (hlive lc).mp hl with hin | ⟨hl0, hne⟩
    · rcases hL2 lc hin with hn | ⟨a0, ha0, hid0, hnd, hsame | hw⟩
      · exact absurd (hnew _ hn).2.1 hnb
      · subst hsame
        exact keep a0 (oldList_live _ e a0 ha0) hnd hnb
      · exact .inr (.inr hw)
    · exact keep lc hl0 (hdropE lc hl0 hne) hnb

/-- The list of ECU `e` now ends in `x`, which carries the id of the message in flight: `x` is new, with the next id, and
    buffered, or it stands where `old` stood - the last lifecycle, whose id it keeps. -/
theorem finv_last (s : St) (m' : Msg) (hi : LInv s) (h : FInv s s.bufMsgs) (e : Nat) (pre old : List Lc) (x : Lc) (n' : Nat)
    (buf newIds : List Nat) (hold : oldList s.ecuMap e = pre ++ old) (hm : m'.lc = x.id) (hsame : ∀ o ∈ old, o.id = x.id)
    (hx : newIds = [s.nextId] ∧ x.id = s.nextId ∨ newIds = [] ∧ ∃ o ∈ old, o.id = x.id)
    (hbuf : buf = s.bufLcs ++ newIds) :
    FInv (setEcu { s with nextId := n', bufLcs := buf } e (pre ++ [x])) (s.bufMsgs ++ [m']) := by
  subst hbuf
  have hnew : ∀ i ∈ newIds, i = s.nextId ∧ x.id = i := by
    rcases hx with ⟨rfl, hx⟩ | ⟨rfl, _⟩
    · exact fun i hi' => ⟨List.mem_singleton.mp hi', hx.trans (List.mem_singleton.mp hi').symm⟩
    · exact List.forall_mem_nil _
  -- nothing is dropped, but `finv_replace` wants the id that is: `s.nextId + 1`, which nothing has yet
  have hfree : ∀ i, i < s.nextId → i ≠ s.nextId + 1 := fun i hlt => Nat.ne_of_lt (Nat.lt_succ_of_lt hlt)
  have hin : ∀ a ∈ pre ++ old, a ∈ oldList s.ecuMap e ∧ a.id ≠ s.nextId + 1 := fun a ha =>
    ⟨hold ▸ ha, hfree _ (hi.map.fresh a (oldList_live _ e a (hold ▸ ha)))⟩
  apply finv_replace s _ s.bufMsgs _ hi h e (pre ++ [x]) (s.nextId + 1) newIds
  case hem =>
    rfl
  case hk =>
    exact h.keys
  case hsub =>
    intro kv hkv
    exact ⟨hkv, hfree _ (pub_lt s _ hi h kv hkv)⟩
  case hget =>
    intro _ _; rfl
  case htr =>
    intro i hi'; exact hi'
  case hbn =>
    refine List.nodup_append.mpr ⟨h.bufNodup, ?_, fun a ha b hb => ?_⟩
    · rcases hx with ⟨rfl, _⟩ | ⟨rfl, _⟩ <;> simp
    · rw [(hnew b hb).1]
      exact Nat.ne_of_lt (buf_lt s _ hi h a ha)
  case hb1 =>
    intro i hi'
    exact (List.mem_append.mp hi').imp_left fun h1 => ⟨h1, hfree _ (buf_lt s _ hi h i h1)⟩
  case hb2 =>
    intro i hi' _
    exact List.mem_append_left _ hi'
  case hnew =>
    intro i hi'
    exact ⟨Nat.le_of_eq (hnew i hi').1.symm, List.mem_append_right _ hi', x, List.mem_append_right _ List.mem_cons_self, (hnew i hi').2⟩
  case hL2 =>
    refine List.forall_mem_append.mpr ⟨fun lc hlc => ?_, List.forall_mem_singleton.mpr ?_⟩
    · obtain ⟨h1, h2⟩ := hin lc (List.mem_append_left _ hlc)
      exact .inr ⟨lc, h1, rfl, h2, .inl rfl⟩
    · rcases hx with ⟨rfl, hx⟩ | ⟨_, o, ho, hid⟩
      · exact .inl (List.mem_singleton.mpr hx)
      · obtain ⟨h1, h2⟩ := hin o (List.mem_append_right _ ho)
        exact .inr ⟨o, h1, hid, hid ▸ h2, .inr ⟨m', List.mem_append_right _ List.mem_cons_self, hm⟩⟩
  case hL3 =>
    intro a0 ha0 _
    rcases List.mem_append.mp (hold ▸ ha0) with h' | h'
    · exact ⟨a0, List.mem_append_left _ h', rfl⟩
    · exact ⟨x, List.mem_append_right _ List.mem_cons_self, (hsame a0 h').symm⟩
  case hdropE =>
    intro lc hl _
    exact hfree _ (hi.map.fresh lc hl)
  case hq =>
    intro m0 hm0 _
    exact .inl ⟨m0, List.mem_append_left _ hm0, rfl⟩

theorem relabel_keep (a b : Nat) (ms : List Msg) (m : Msg) (hm : m ∈ ms) (hne : m.lc ≠ a) : m ∈ relabel a b ms :=
  List.mem_map.mpr ⟨m, hm, if_neg (mt beq_iff_eq.mp hne)⟩

theorem finv_merge (s : St) (hi : LInv s) (h : FInv s s.bufMsgs) (e : Nat) (pre : List Lc) (prev last P : Lc)
    (hold : oldList s.ecuMap e = pre ++ [prev, last]) (hid : P.id = prev.id) (mq : Msg) (hmq : mq.lc = prev.id) :
    FInv (s.merged last.id prev.id e (pre ++ [P])) (relabel last.id prev.id s.bufMsgs ++ [mq]) := by
  have hin : ∀ a ∈ pre ++ [prev, last], a ∈ oldList s.ecuMap e := fun a ha => hold ▸ ha
  have hlastIn := hin last (List.mem_append_right _ (List.mem_cons_of_mem _ List.mem_cons_self))
  -- the ids of the kept elements differ from the dropped one
  have hnd := oldList_nodup _ _ hi.map e
  rw [hold, List.append_cons, List.map_append, List.nodup_append] at hnd
  have hne_last : ∀ a ∈ pre ++ [prev], a.id ≠ last.id := fun a ha =>
    hnd.2.2 a.id (List.mem_map.mpr ⟨a, ha, rfl⟩) last.id List.mem_cons_self
  have hpub := merged_published s last.id prev.id e (pre ++ [P]) hi.pend
  apply finv_replace s _ s.bufMsgs _ hi h e (pre ++ [P]) last.id []
  case hem =>
    rfl
  case hk =>
    rw [hpub]; split
    · exact h.keys
    · exact keys_assocErase_nodup _ _ h.keys
  case hsub =>
    intro kv hkv
    rw [hpub] at hkv
    split at hkv
    · rename_i hc
      exact ⟨hkv, fun heq => (h.pubLive kv hkv).2 (heq ▸ List.contains_iff_mem.mp hc)⟩
    · exact (mem_assocErase _ _ _).mp hkv
  case hget =>
    intro k hk
    rw [hpub]; split
    · rfl
    · rw [assocGet_assocErase, if_neg hk]
  case htr =>
    intro i hi'; exact hi'
  case hbn =>
    exact h.bufNodup.erase _
  case hb1 =>
    intro i hi'
    exact .inl ((mem_erase_nodup _ _ _ h.bufNodup).mp hi')
  case hb2 =>
    intro i hi' hne
    exact (mem_erase_nodup _ _ _ h.bufNodup).mpr ⟨hi', hne⟩
  case hnew =>
    exact List.forall_mem_nil _
  case hL2 =>
    refine List.forall_mem_append.mpr ⟨fun lc hlc => ?_, List.forall_mem_singleton.mpr ?_⟩
    · exact .inr ⟨lc, hin lc (List.mem_append_left _ hlc), rfl, hne_last lc (List.mem_append_left _ hlc), .inl rfl⟩
    · have hprevIn : prev ∈ pre ++ [prev] := List.mem_append_right _ List.mem_cons_self
      exact .inr ⟨prev, hin prev (List.mem_append_right _ List.mem_cons_self), hid.symm, hid ▸ hne_last prev hprevIn,
        .inr ⟨mq, List.mem_append_right _ List.mem_cons_self, hmq.trans hid.symm⟩⟩
  case hL3 =>
    rw [hold]
    exact List.forall_mem_append.mpr ⟨fun a0 ha0 _ => ⟨a0, List.mem_append_left _ ha0, rfl⟩,
      List.forall_mem_cons.mpr ⟨fun _ => ⟨P, List.mem_append_right _ List.mem_cons_self, hid⟩,
        List.forall_mem_singleton.mpr fun hne => absurd rfl hne⟩⟩
  case hdropE =>
    intro lc hl hne hc
    exact hne ((hi.map.uniq lc last hl (oldList_live _ e last hlastIn) hc).trans (oldList_ecu _ _ e hi.map last hlastIn))
  case hq =>
    intro m0 hm0 hne
    exact .inl ⟨m0, List.mem_append_left _ (relabel_keep _ _ _ m0 hm0 hne), rfl⟩

theorem assign_finv (s : St) (m : Msg) (hi : LInv s) (hp : IdPos s) (h : FInv s s.bufMsgs) :
    FInv (s.assign m).1 ((s.assign m).1.bufMsgs ++ [(s.assign m).2]) := by
  cases assign_cases s m with
  | append N eq h1 =>
    rw [eq]
    exact finv_last s _ hi h m.ecu _ [] N _ _ [s.nextId] (List.append_nil _).symm h1.symm (List.forall_mem_nil _)
      (.inl ⟨rfl, h1⟩) rfl
  | keep pre last r eq hL h1 =>
    rw [eq]
    exact finv_last s _ hi h m.ecu pre [last] r s.nextId s.bufLcs [] hL h1.symm (fun o ho => List.mem_singleton.mp ho ▸ h1.symm)
      (.inr ⟨rfl, last, List.mem_singleton.mpr rfl, h1.symm⟩) (List.append_nil _).symm
  | merge pre prev last r eq hL =>
    have hlive := (idpos_assign s m hp).live
    rw [eq] at hlive ⊢
    have h4 := finv_merge s hi h m.ecu pre prev last (prev.merge r) hL (merge_facts prev r).1 { m with lc := prev.id } rfl
    -- the final flush: everything queued is delivered and, no live lifecycle having the id 0 (`hp`), marked
    rcases mergeTail_cases s last.id prev.id m.ecu (pre ++ [prev.merge r]) with ⟨e', _⟩ | ⟨_, tr, hmarks, e'⟩ <;>
      rw [e'] at hlive ⊢
    · exact h4
    · refine finv_delivered _ _ _ h4 _ tr [] 0 hmarks (fun m0 hm0 => (List.mem_append.mp hm0).symm) fun lc hl h0 => ?_
      obtain ⟨p, hpm, hlc⟩ := hl
      exact absurd (hlive p hpm lc hlc) (h0 ▸ Nat.not_succ_le_zero 0)

theorem step_finv (s : St) (m : Msg) (hi : LInv s) (hp : IdPos s) (h : FInv s s.bufMsgs) : FInv (s.step m) (s.step m).bufMsgs :=
  step_inv (I := fun t => FInv t t.bufMsgs) s m h
    (deliver_finv _ _ (confirm_finv _ _ [(s.assign m).2] (assign_linv s hi m).1 (assign_finv s m hi hp h)))

theorem steps_finv (ms : List Msg) (s : St) (hi : LInv s) (hp : IdPos s) (h : FInv s s.bufMsgs) :
    FInv (ms.foldl St.step s) (ms.foldl St.step s).bufMsgs :=
  (foldl_inv (I := fun t => LInv t ∧ IdPos t ∧ FInv t t.bufMsgs)
    (fun t m _ ⟨hi, hp, h⟩ => ⟨step_linv t hi m, idpos_step t m hp, step_finv t m hi hp h⟩) ⟨hi, hp, h⟩).2.2

theorem init_finv : FInv ({} : St) [] :=
  ⟨List.nodup_nil, List.forall_mem_nil _, List.nodup_nil, List.forall_mem_nil _, fun _ h => (not_live_nil _ h).elim⟩

/-! ### the end of the stream -/

/-- One publication at the end of the stream: the entries of the live lifecycles that satisfy `P` are applied to a table.
    Such a lifecycle is then listed with its value, the others keep their entry; no entry comes from elsewhere. -/
theorem applyPending_entriesOf (em : List (Nat × List Lc)) (n : Nat) (hm : MapInv em n) (P : Lc → Bool)
    (pub : List (Nat × Lc)) (hk : (keys pub).Nodup) :
    (∀ lc, Live em lc → assocGet lc.id (applyPending pub (entriesOf P em)) = if P lc then some lc else assocGet lc.id pub) ∧
    (keys (applyPending pub (entriesOf P em))).Nodup ∧
    (∀ kv ∈ applyPending pub (entriesOf P em), kv ∈ pub ∨ Live em kv.2 ∧ kv.2.id = kv.1) := by
  refine ⟨fun lc hl => ?_, keys_foldl_assocSet_nodup _ _ hk, fun kv hkv => ?_⟩
  · rcases assocGet_foldl_assocSet lc.id (entriesOf P em) pub with ⟨v, hv, e⟩ | ⟨hn, e⟩ <;> refine e.trans ?_
    · -- an entry under the id of `lc` is `lc` itself
      obtain ⟨a1, a2, a3⟩ := (mem_entriesOf _ _ _).mp hv
      rw [← live_id_unique _ _ hm lc v hl a2 a1] at a3 ⊢
      rw [if_pos a3]
    · rw [if_neg fun hP => hn lc ((mem_entriesOf _ _ _).mpr ⟨rfl, hl, hP⟩)]
  · exact (mem_foldl_assocSet _ _ kv hkv).imp_right fun h => ⟨((mem_entriesOf _ _ _).mp h).2.1, ((mem_entriesOf _ _ _).mp h).1.symm⟩

/-- **the table at the end**: every live lifecycle is listed with its current value, every listed entry is a live lifecycle
    under its own id, and no id is listed twice -/
theorem finish_final (s : St) (hi : LInv s) (h : FInv s s.bufMsgs) (hnp : s.panicked = false) :
    (∀ lc, Live s.finish.ecuMap lc → assocGet lc.id s.finish.published = some lc) ∧
    (∀ kv ∈ s.finish.published, Live s.finish.ecuMap kv.2 ∧ kv.2.id = kv.1) ∧
    (keys s.finish.published).Nodup := by
  obtain ⟨tr, t1, t2, e⟩ := finish_eq s hnp
  rw [hi.pend, List.nil_append] at e
  rw [e]
  -- first the buffered lifecycles are published, then the marked ones
  obtain ⟨g1, k1, m1⟩ := applyPending_entriesOf s.ecuMap s.nextId hi.map (fun lc => s.bufLcs.contains lc.id) s.published h.keys
  obtain ⟨g3, k3, m3⟩ := applyPending_entriesOf s.ecuMap s.nextId hi.map (fun lc => tr.contains lc.id) _ k1
  have T1 : ∀ lc, Live s.ecuMap lc → assocGet lc.id (applyPending (applyPending s.published
      (entriesOf (fun lc => s.bufLcs.contains lc.id) s.ecuMap)) (entriesOf (fun lc => tr.contains lc.id) s.ecuMap)) = some lc := by
    intro lc hl
    rw [g3 lc hl]
    split
    · rfl
    · rename_i hm
      rw [g1 lc hl]
      split
      · rfl
      · rename_i hb
        -- confirmed and not marked, no message of it queued (that would have marked it): its entry is current
        rcases h.fresh lc hl (mt List.contains_iff_mem.mpr hb) with h1 | h1 | ⟨m, hm', hml⟩
        · exact h1
        · exact absurd (List.contains_iff_mem.mpr (t1 _ h1)) hm
        · exact absurd (List.contains_iff_mem.mpr (hml ▸ t2 m hm')) hm
  refine ⟨T1, fun kv hkv => ?_, k3⟩
  rcases m3 kv hkv with h1 | h1
  · rcases m1 kv h1 with h2 | h2
    · -- an entry of the old table: its key is the id of a live lifecycle, which is listed with its value
      obtain ⟨⟨lc, hl, hid⟩, _⟩ := h.pubLive kv h2
      have hget := T1 lc hl
      rw [hid, mem_assocGet kv.1 kv.2 _ k3 hkv] at hget
      exact Option.some.inj hget ▸ ⟨hl, hid⟩
    · exact h2
  · exact h1

end Lcm
