import Adlt.Lc.Ops
/-! C08, whole trace (part A): one assignment step on a clean trace inside the claimed region.

    Ground truth `G e` = the boots of ECU `e` seen so far, newest first: boot number, id of its lifecycle, calculated start
    (= reception time - timestamp = boot time + transport delay, constant within a boot), largest timestamp, message count.
    A message *fits* `G` if it has a timestamp, is no control request, and is of the newest boot of its ECU (same calculated
    start) or of the next one, whose calculated start lies in the region relative to the newest boot: after its end, or
    before it by less than the "slightly overlapping" window while that boot was longer than 10 s.
    `assign8`: the step keeps every ECU's lifecycle list equal to `G`, labels the message with the id of its boot, never
    merges and touches nothing but the per-ECU map, the id counter and the set of unconfirmed lifecycles. -/
namespace Lcm

/-- ground truth about one boot of an ECU: its number, the id of its lifecycle, calculated start, largest timestamp, messages -/
structure Rec where
  boot : Nat
  id : Nat
  start : Nat
  maxTs : Nat
  n : Nat
deriving Repr, DecidableEq

/-- what a lifecycle and the record of its boot are compared by -/
def Rec.sig (r : Rec) : Nat × Nat × Nat × Nat := (r.id, r.start, r.maxTs, r.n)
def Lc.sig (l : Lc) : Nat × Nat × Nat × Nat := (l.id, l.start, l.maxTs, l.nrMsgs)

def slightWin : Nat := usPerSec * Gen.lcSlightOverlapSecs
def minLen : Nat := usPerSec * Gen.lcMinLenForOverlapSecs

/-- the claimed region: calculated start `S` of the next boot relative to the boot `(start, maxTs)` -/
def Region (start maxTs S : Nat) : Prop :=
  S > start + maxTs ∨ (S ≤ start + maxTs ∧ S + slightWin > start + maxTs ∧ start + maxTs > start + minLen)

/-- newest first: every boot starts in the region relative to the one before it -/
def Chain : List Rec → Prop
  | [] => True
  | [_] => True
  | r :: p :: t => Region p.start p.maxTs r.start ∧ Chain (p :: t)

structure Inv8 (s : St) (G : Nat → List Rec) : Prop where
  /-- the lifecycles of every ECU are its boots: same ids, starts, largest timestamps, counts -/
  sig : ∀ e, (oldList s.ecuMap e).reverse.map Lc.sig = (G e).map Rec.sig
  /-- makes `endTime = start + maxTs` (`endTime_of`): with `maxTs = 0` the end is `lastRecv` -/
  zero : ∀ e, ∀ l ∈ oldList s.ecuMap e, l.maxTs = 0 → l.lastRecv = l.start
  /-- consecutive boots lie in the region: what makes the merge test fail (`no_merge_cond`) -/
  chain : ∀ e, Chain (G e)

theorem Inv8.of_ecuMap {s s' : St} {G : Nat → List Rec} (hI : Inv8 s G) (h : s'.ecuMap = s.ecuMap) : Inv8 s' G :=
  ⟨by rw [h]; exact hI.sig, by rw [h]; exact hI.zero, hI.chain⟩

def calcStart (m : Msg) : Nat := m.recv - m.tsUs

def Fits (G : Nat → List Rec) (m : Msg) (b : Nat) : Prop :=
  m.hasTs = true ∧ m.ctrlReq = false ∧ m.tsUs ≤ m.recv ∧
  match G m.ecu with
  | [] => True
  | r :: _ => (b = r.boot ∧ calcStart m = r.start) ∨ (b = r.boot + 1 ∧ Region r.start r.maxTs (calcStart m))

def addTo (G : Nat → List Rec) (m : Msg) (b : Nat) (id : Nat) : Nat → List Rec := fun e =>
  if e = m.ecu then
    match G m.ecu with
    | [] => [{ boot := b, id := id, start := calcStart m, maxTs := m.tsUs, n := 1 }]
    | r :: t => if b = r.boot then { r with maxTs := max r.maxTs m.tsUs, n := r.n + 1 } :: t
                else { boot := b, id := id, start := calcStart m, maxTs := m.tsUs, n := 1 } :: r :: t
  else G e

theorem endTime_of (l : Lc) (hz : l.maxTs = 0 → l.lastRecv = l.start) : l.endTime = l.start + l.maxTs := by
  fun_cases Lc.endTime l with
  | case1 h => rw [hz (beq_iff_eq.mp h), beq_iff_eq.mp h]; rfl
  | case2 => rfl

theorem recv_of_calcStart {m : Msg} {S : Nat} (hle : m.tsUs ≤ m.recv) (hs : calcStart m = S) : m.recv = S + m.tsUs := by
  rw [← hs]; exact (Nat.sub_add_cancel hle).symm

/-- A message whose calculated start is the lifecycle's start is part of it. Of the generated constants the proof uses only
    `Gen.lcSlightOverlapSecs ≤ Gen.lcMinLenForOverlapSecs` and `0 < usPerSec * Gen.lcMinResumeGapSecs` (both by `decide`: a
    change in /repo that breaks one of them breaks the proof at that line). -/
theorem classify_belongs (l : Lc) (m : Msg) (hc : m.ctrlReq = false) (hrecv : m.recv = l.start + m.tsUs)
    (hend : l.start ≤ l.endTime) : l.classify m = .belongs := by
  have hs : m.recv - m.tsUs = l.start := by rw [hrecv, Nat.add_sub_cancel]
  -- not "slightly overlapping" at its own start: that asks for an end less than the window after the start and more than the
  -- minimal length after it, and the window is not longer than the minimal length
  have hwin : usPerSec * Gen.lcSlightOverlapSecs ≤ usPerSec * Gen.lcMinLenForOverlapSecs := Nat.mul_le_mul_left _ (by decide)
  have hslight : l.slightlyOverlapping l.start = false := Bool.eq_false_iff.mpr fun h => by
    simp only [Lc.slightlyOverlapping, Bool.and_eq_true, decide_eq_true_eq] at h
    obtain ⟨⟨_, (hw : l.endTime < l.start + usPerSec * Gen.lcSlightOverlapSecs)⟩, (hm : l.start + usPerSec * Gen.lcMinLenForOverlapSecs < l.endTime)⟩ := h
    exact Nat.lt_irrefl _ (Nat.lt_of_lt_of_le (Nat.lt_trans hm hw) (Nat.add_le_add_left hwin _))
  -- hence part of the lifecycle, as the start is not after the end
  have hpart : decide (l.start ≤ l.endTime) = true := decide_eq_true hend
  -- the start would not move (by 0, not by more than `maxDelay`)
  have hmove : ¬ (0 > maxDelay) := Nat.not_lt_zero _
  -- no resume: that asks for a calculated start at least the minimal gap after the start
  have hres : decide (l.start ≥ l.start + usPerSec * Gen.lcMinResumeGapSecs) = false :=
    decide_eq_false (Nat.not_le_of_gt (Nat.lt_add_of_pos_right (by decide)))
  -- with these every test of `classify` is decided
  simp only [Lc.classify, hc, hs, hslight, hpart, hmove, hres, Nat.lt_irrefl, Nat.sub_self, Bool.false_eq_true, if_false, if_true,
    Bool.not_false, Bool.true_or, decide_false, Bool.false_and, Bool.and_false, Bool.and_self]

/-- a calculated start in the region is not part of the lifecycle, in the sense both `classify` and the merge test use -/
theorem region_not_part (l : Lc) (S : Nat) (hz : l.maxTs = 0 → l.lastRecv = l.start) (hr : Region l.start l.maxTs S) :
    (!l.slightlyOverlapping S && decide (S ≤ l.endTime)) = false := by
  rcases hr with h | h
  · rw [endTime_of l hz, decide_eq_false (Nat.not_le_of_gt h), Bool.and_false]
  · -- the second clause of `Region` is `slightlyOverlapping` written out
    have hs : l.slightlyOverlapping S = true := by
      unfold Lc.slightlyOverlapping
      simp only []
      rw [endTime_of l hz]
      simp only [Bool.and_eq_true, decide_eq_true_eq]
      exact ⟨⟨h.1, h.2.1⟩, h.2.2⟩
    rw [hs]; rfl

theorem classify_fresh (l : Lc) (m : Msg) (hc : m.ctrlReq = false)
    (hpart : ((!l.slightlyOverlapping (m.recv - m.tsUs) && decide (m.recv - m.tsUs ≤ l.endTime)) || !m.hasTs) = false) :
    ∃ r, l.classify m = .fresh r := by
  unfold Lc.classify
  simp only [hc, Bool.false_eq_true, if_false, hpart, Bool.false_and, Bool.and_false]
  exact ⟨_, rfl⟩

theorem classify_next (l : Lc) (m : Msg) (hc : m.ctrlReq = false) (hts : m.hasTs = true)
    (hz : l.maxTs = 0 → l.lastRecv = l.start) (hr : Region l.start l.maxTs (calcStart m)) : ∃ r, l.classify m = .fresh r :=
  classify_fresh l m hc (by rw [hts, region_not_part l (m.recv - m.tsUs) hz hr]; rfl)

theorem no_merge_cond (lc2 prev : Lc) (hz : prev.maxTs = 0 → prev.lastRecv = prev.start)
    (hr : Region prev.start prev.maxTs lc2.start) :
    (lc2.start ≤ prev.endTime && lc2.resume.isNone && !prev.slightlyOverlapping lc2.start) = false := by
  rw [Bool.and_right_comm, Bool.and_comm (decide _), region_not_part prev _ hz hr, Bool.false_and]

theorem absorb_same (l : Lc) (m : Msg) (hrecv : m.recv = l.start + m.tsUs) :
    (l.absorb m).id = l.id ∧ (l.absorb m).start = l.start ∧ (l.absorb m).maxTs = max l.maxTs m.tsUs ∧
    (l.absorb m).nrMsgs = l.nrMsgs + 1 ∧ (l.absorb m).lastRecv = m.recv := by
  unfold Lc.absorb
  have hs : m.recv - m.tsUs = l.start := by rw [hrecv, Nat.add_sub_cancel]
  simp only [hs, Nat.lt_irrefl, if_false]
  refine ⟨trivial, trivial, ?_, trivial, trivial⟩
  by_cases h : l.maxTs < m.tsUs
  · rw [if_pos h, Nat.max_eq_right (Nat.le_of_lt h)]
  · rw [if_neg h, Nat.max_eq_left (Nat.le_of_not_lt h)]
    cases l.resume with
    | none => rfl
    | some r => exact (apply_ite Prod.fst ..).trans (ite_self _)

theorem absorb_zero (l : Lc) (m : Msg) (hrecv : m.recv = l.start + m.tsUs) (h0 : (l.absorb m).maxTs = 0) :
    (l.absorb m).lastRecv = (l.absorb m).start := by
  obtain ⟨_, a2, a3, _, a5⟩ := absorb_same l m hrecv
  rw [a3] at h0
  rw [a5, a2, hrecv, (Nat.max_eq_zero_iff.mp h0).2]
  rfl

theorem update_same (l : Lc) (id : Nat) (m : Msg) (hc : m.ctrlReq = false) (hrecv : m.recv = l.start + m.tsUs)
    (hz : l.maxTs = 0 → l.lastRecv = l.start) :
    l.update id m = (l.absorb m, { m with lc := l.id }, none) := by
  unfold Lc.update
  rw [classify_belongs l m hc hrecv (by rw [endTime_of l hz]; exact Nat.le_add_right _ _)]
  rfl

theorem new_start (id : Nat) (m : Msg) (hc : m.ctrlReq = false) (hle : m.tsUs ≤ m.recv) :
    (Lc.new id m).1.sig = (id, calcStart m, m.tsUs, 1) ∧
    ((Lc.new id m).1.maxTs = 0 → (Lc.new id m).1.lastRecv = (Lc.new id m).1.start) := by
  unfold Lc.new calcStart Lc.sig
  simp only [hc, Bool.false_eq_true, if_false, Nat.not_lt_of_ge hle]
  exact ⟨trivial, fun h0 => by rw [h0]; rfl⟩

theorem update_next (l : Lc) (id : Nat) (m : Msg) (hc : m.ctrlReq = false) (hts : m.hasTs = true) (hle : m.tsUs ≤ m.recv)
    (hz : l.maxTs = 0 → l.lastRecv = l.start) (hr : Region l.start l.maxTs (calcStart m)) :
    ∃ nl, l.update id m = (l, { m with lc := id }, some nl) ∧ nl.sig = (id, calcStart m, m.tsUs, 1) ∧
      (nl.maxTs = 0 → nl.lastRecv = nl.start) := by
  obtain ⟨r, hr'⟩ := classify_next l m hc hts hz hr
  obtain ⟨n1, n2⟩ := new_start id m hc hle
  unfold Lc.update
  rw [hr']
  cases r with
  | false => exact ⟨(Lc.new id m).1, rfl, n1, n2⟩
  | true =>
    exact ⟨{ (Lc.new id m).1 with resume := some { id := l.id, start := l.start, maxTs := l.maxTs, eff := l.resumeStart } }, rfl, n1, n2⟩

/-- what an assignment step inside the region leaves alone -/
structure Frame8 (s s' : St) : Prop where
  bufMsgs : s'.bufMsgs = s.bufMsgs
  out : s'.out = s.out
  published : s'.published = s.published
  pending : s'.pending = s.pending
  toRefresh : s'.toRefresh = s.toRefresh
  nextCheck : s'.nextCheck = s.nextCheck
  panicked : s'.panicked = s.panicked

theorem frame8_setEcu (s : St) (n : Nat) (bl : List Nat) (e : Nat) (L : List Lc) :
    Frame8 s (setEcu { s with nextId := n, bufLcs := bl } e L) := ⟨rfl, rfl, rfl, rfl, rfl, rfl, rfl⟩

/-- the id the message is labelled with: the id of the newest boot of its ECU afterwards -/
def headId (G : Nat → List Rec) (e : Nat) : Nat := match G e with | r :: _ => r.id | [] => 0

theorem sig_cons {l : Lc} {L : List Lc} {r : Rec} {T : List Rec} (h : (l :: L).map Lc.sig = (r :: T).map Rec.sig) :
    l.id = r.id ∧ l.start = r.start ∧ l.maxTs = r.maxTs ∧ l.nrMsgs = r.n ∧ L.map Lc.sig = T.map Rec.sig := by
  simp only [List.map_cons, List.cons.injEq, Lc.sig, Rec.sig, Prod.mk.injEq] at h
  exact ⟨h.1.1, h.1.2.1, h.1.2.2.1, h.1.2.2.2, h.2⟩

theorem addTo_other (G : Nat → List Rec) (m : Msg) (b nid e : Nat) (he : e ≠ m.ecu) : addTo G m b nid e = G e := by
  unfold addTo; rw [if_neg he]

theorem addTo_own_nil (G : Nat → List Rec) (m : Msg) (b nid : Nat) (hg : G m.ecu = []) :
    addTo G m b nid m.ecu = [{ boot := b, id := nid, start := calcStart m, maxTs := m.tsUs, n := 1 }] := by
  unfold addTo; rw [if_pos rfl, hg]

theorem addTo_own_same (G : Nat → List Rec) (m : Msg) (b nid : Nat) (R : Rec) (T : List Rec) (hg : G m.ecu = R :: T) (hb : b = R.boot) :
    addTo G m b nid m.ecu = { R with maxTs := max R.maxTs m.tsUs, n := R.n + 1 } :: T := by
  unfold addTo; rw [if_pos rfl, hg]; simp only []; rw [if_pos hb]

theorem addTo_own_next (G : Nat → List Rec) (m : Msg) (b nid : Nat) (R : Rec) (T : List Rec) (hg : G m.ecu = R :: T) (hb : ¬ b = R.boot) :
    addTo G m b nid m.ecu = { boot := b, id := nid, start := calcStart m, maxTs := m.tsUs, n := 1 } :: R :: T := by
  unfold addTo; rw [if_pos rfl, hg]; simp only []; rw [if_neg hb]

theorem inv8_set {s : St} {G G' : Nat → List Rec} (hI : Inv8 s G) (n : Nat) (bl : List Nat) (e : Nat) (Lr : List Lc) {R : List Rec}
    (hG : ∀ e', e' ≠ e → G' e' = G e') (hR : G' e = R) (h1 : Lr.map Lc.sig = R.map Rec.sig)
    (h2 : ∀ l ∈ Lr, l.maxTs = 0 → l.lastRecv = l.start) (h3 : Chain R) :
    Inv8 (setEcu { s with nextId := n, bufLcs := bl } e Lr.reverse) G' := by
  have ho : ∀ e', oldList (setEcu { s with nextId := n, bufLcs := bl } e Lr.reverse).ecuMap e' =
      if e' = e then Lr.reverse else oldList s.ecuMap e' := fun e' => oldList_assocSet s.ecuMap e e' Lr.reverse
  refine ⟨fun e' => ?_, fun e' => ?_, fun e' => ?_⟩
  · rw [ho]; split
    · rename_i he; rw [he, List.reverse_reverse, hR]; exact h1
    · rename_i he; rw [hG e' he]; exact hI.sig e'
  · rw [ho]; split
    · exact fun l hl => h2 l (List.mem_reverse.mp hl)
    · exact hI.zero e'
  · by_cases he : e' = e
    · rw [he, hR]; exact h3
    · rw [hG e' he]; exact hI.chain e'

theorem assign8 (s : St) (G : Nat → List Rec) (m : Msg) (b : Nat) (hI : Inv8 s G) (hF : Fits G m b) :
    Inv8 (s.assign m).1 (addTo G m b s.nextId) ∧ (s.assign m).2 = { m with lc := headId (addTo G m b s.nextId) m.ecu } ∧
    Frame8 s (s.assign m).1 := by
  obtain ⟨hts, hc, hle, hfit⟩ := hF
  have hsig := hI.sig m.ecu
  have hzero := hI.zero m.ecu
  have hchain := hI.chain m.ecu
  have hG' := fun e he => addTo_other G m b s.nextId e he
  cases hL : (oldList s.ecuMap m.ecu).reverse with
  | nil =>
    rw [hL] at hsig
    have hG : G m.ecu = [] := List.map_eq_nil_iff.mp hsig.symm
    obtain ⟨n1, n2⟩ := new_start s.nextId m hc hle
    have hadd := addTo_own_nil G m b s.nextId hG
    rw [assign_first s m hL]
    refine ⟨inv8_set hI _ _ m.ecu [(Lc.new s.nextId m).1] hG' hadd ?_ ?_ ?_, ?_, frame8_setEcu ..⟩
    · rw [List.map_singleton, n1]; rfl
    · exact fun l hl => List.mem_singleton.mp hl ▸ n2
    · trivial
    · unfold headId; rw [hadd]; rfl
  | cons last rest =>
    rw [hL] at hsig
    cases hg : G m.ecu with
    | nil => rw [hg] at hsig; cases hsig
    | cons R T =>
      rw [hg] at hsig hfit hchain
      obtain ⟨s1, s2, s3, s4, s5⟩ := sig_cons hsig
      have hz : ∀ l ∈ last :: rest, l.maxTs = 0 → l.lastRecv = l.start := fun l hl => hzero l (List.mem_reverse.mp (hL ▸ hl))
      have hzl := hz last List.mem_cons_self
      rcases hfit with ⟨hb, hcs⟩ | ⟨hb, hreg⟩
      · -- absorbed without moving the start, so the merge test fails: consecutive boots lie in the region
        have hrecv : m.recv = last.start + m.tsUs := recv_of_calcStart hle (hcs.trans s2.symm)
        obtain ⟨a1, a2, a3, a4, _⟩ := absorb_same last m hrecv
        have hadd := addTo_own_same G m b s.nextId R T hg hb
        have hass : s.assign m = (setEcu s m.ecu (last.absorb m :: rest).reverse, { m with lc := last.id }) := by
          rw [assign_taken s m last rest hL _ _ (update_same last s.nextId m hc hrecv hzl)]
          cases rest with
          | nil => rfl
          | cons prev rest2 =>
            cases T with
            | nil => cases s5
            | cons P T =>
              obtain ⟨_, p2, p3, _, _⟩ := sig_cons s5
              have hno := no_merge_cond (last.absorb m) prev (hz prev (List.mem_cons_of_mem _ List.mem_cons_self))
                (by rw [a2, s2, p2, p3]; exact hchain.1)
              exact (maybeMerge_eq ..).trans (if_neg fun h => Bool.false_ne_true (hno.symm.trans h.1))
        rw [hass]
        refine ⟨inv8_set hI _ _ m.ecu _ hG' hadd ?_ ?_ ?_, ?_, frame8_setEcu ..⟩
        · simp only [List.map_cons, s5, Lc.sig, Rec.sig, a1, a2, a3, a4, s1, s2, s3, s4]
        · exact List.forall_mem_cons.mpr ⟨absorb_zero last m hrecv, fun l hl => hz l (List.mem_cons_of_mem _ hl)⟩
        · cases T <;> exact hchain
        · unfold headId; rw [hadd]; simp only []; rw [s1]
      · have hreg' : Region last.start last.maxTs (calcStart m) := by rw [s2, s3]; exact hreg
        obtain ⟨nl, hu, n1, n2⟩ := update_next last s.nextId m hc hts hle hzl hreg'
        have hadd := addTo_own_next G m b s.nextId R T hg fun h => Nat.succ_ne_self _ (hb.symm.trans h)
        rw [assign_fresh s m last rest hL _ _ _ hu]
        refine ⟨inv8_set hI _ _ m.ecu _ hG' hadd ?_ ?_ ?_, ?_, frame8_setEcu ..⟩
        · rw [List.map_cons, n1, hsig]; rfl
        · exact List.forall_mem_cons.mpr ⟨n2, hz⟩
        · exact ⟨hreg, hchain⟩
        · unfold headId; rw [hadd]

end Lcm
