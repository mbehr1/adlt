import Adlt.Lc.Ops
/-! C07 (counts, part 1): the message counts of the live lifecycles always add up to the number of messages taken in -
    every message increments exactly one lifecycle (or creates one with count 1), a merge adds the counts. -/
namespace Lcm

def sumN (l : List Lc) : Nat := (l.map (·.nrMsgs)).sum

/-- the live lifecycles, ECU by ECU -/
def allLive (em : List (Nat × List Lc)) : List Lc := em.flatMap (·.2)

def totalN (em : List (Nat × List Lc)) : Nat := sumN (allLive em)

theorem sumN_cons (a : Lc) (l : List Lc) : sumN (a :: l) = a.nrMsgs + sumN l := List.sum_cons
theorem sumN_append (a b : List Lc) : sumN (a ++ b) = sumN a + sumN b := by simp [sumN]
theorem sumN_singleton (a : Lc) : sumN [a] = a.nrMsgs := Nat.add_zero _

theorem totalN_cons (p : Nat × List Lc) (t : List (Nat × List Lc)) : totalN (p :: t) = sumN p.2 + totalN t := sumN_append _ _

theorem totalN_assocSet {e : Nat} {l : List Lc} {em : List (Nat × List Lc)} {k : Nat} (h : sumN l = sumN (oldList em e) + k) :
    totalN (assocSet e l em) = totalN em + k := by
  induction em with
  | nil => exact (congrArg sumN (List.append_nil l)).trans h
  | cons p t ih =>
    rw [oldList, assocGet_cons] at h
    rw [assocSet_cons, totalN_cons p]
    by_cases hk : p.1 = e
    · rw [if_pos hk] at h ⊢
      exact (totalN_cons _ t).trans (by rw [h, Nat.add_right_comm]; rfl)
    · rw [if_neg hk] at h ⊢
      rw [totalN_cons, ih h, Nat.add_assoc]

theorem apply_n (l : Lc) (id : Nat) (m : Msg) (u : Upd) :
    (l.apply id m u).1.nrMsgs + (match (l.apply id m u).2.2 with | some nl => nl.nrMsgs | none => 0) = l.nrMsgs + 1 := by
  cases u with
  | ctrl => rfl
  | ignoreTs => rfl
  | belongs => rfl
  | fresh r => cases r <;> rfl

theorem merge_n (l o : Lc) : (l.merge o).nrMsgs = l.nrMsgs + o.nrMsgs := by
  rw [merge_eq]

theorem assign_total (s : St) (m : Msg) : totalN (s.assign m).1.ecuMap = totalN s.ecuMap + 1 := by
  cases assign_cases s m with
  | append N eq _ _ h3 =>
    rw [eq]
    exact totalN_assocSet (by rw [sumN_append, sumN_singleton, h3])
  | keep pre last r eq hL _ _ h3 =>
    rw [eq]
    exact totalN_assocSet (by rw [hL, sumN_append, sumN_append, sumN_singleton, sumN_singleton, h3, Nat.add_assoc])
  | merge pre prev last r eq hL _ _ h3 =>
    rw [eq, mergeTail_ecuMap]
    exact totalN_assocSet (by rw [hL, sumN_append, sumN_append, sumN_singleton, sumN_cons, sumN_singleton, merge_n, h3,
      Nat.add_assoc, Nat.add_assoc])

/-- at the end of every stream the message counts of the live lifecycles add up to the number of messages -/
theorem live_counts_sum (ms : List Msg) : totalN (run ms).ecuMap = ms.length :=
  run_ecuMap_ind (fun pre em => totalN em = pre.length) rfl
    (fun pre s m h => by rw [assign_total, h, List.length_append]; rfl) ms

end Lcm
