import Adlt.Lc.Labels
import Adlt.Lc.Spec
/-! C05 (once, in order): `seq s` - the delivered messages followed by the queued ones, lifecycle field erased - grows by
    exactly the message taken in at every step; at the end of the stream the queue is flushed. -/
namespace Lcm

def erase (m : Msg) : Msg := { m with lc := 0 }

def St.seq (s : St) : List Msg := s.out.reverse.map (fun o => erase o.m) ++ s.bufMsgs.map erase

@[simp] theorem emit_out (s : St) (m : Msg) : (s.emit m).out.map (·.m) = m :: s.out.map (·.m) := rfl

/-- the erased sequence of delivered messages, oldest first -/
def St.outSeq (s : St) : List Msg := (s.out.map (fun o => erase o.m)).reverse

@[simp] theorem publish_seq (s : St) (l : Lc) : (s.publish l).seq = s.seq := rfl
@[simp] theorem publish_bufLcs (s : St) (l : Lc) : (s.publish l).bufLcs = s.bufLcs := rfl
@[simp] theorem publish_bufMsgs (s : St) (l : Lc) : (s.publish l).bufMsgs = s.bufMsgs := rfl
@[simp] theorem refresh_seq (s : St) : s.refresh.seq = s.seq := rfl
@[simp] theorem refresh_bufLcs (s : St) : s.refresh.bufLcs = s.bufLcs := rfl
@[simp] theorem refresh_bufMsgs (s : St) : s.refresh.bufMsgs = s.bufMsgs := rfl
@[simp] theorem setEcu_seq (s : St) (e : Nat) (l : List Lc) : (setEcu s e l).seq = s.seq := rfl
@[simp] theorem setEcu_bufLcs (s : St) (e : Nat) (l : List Lc) : (setEcu s e l).bufLcs = s.bufLcs := rfl
@[simp] theorem setEcu_bufMsgs (s : St) (e : Nat) (l : List Lc) : (setEcu s e l).bufMsgs = s.bufMsgs := rfl

/-! `seq` is the image of the labelled sequence under `erase`; what Labels.lean says of `seqL` carries over. -/

theorem outSeq_eq_map (s : St) : s.outSeq = s.outL.map erase := by
  simp [St.outSeq, St.outL, List.map_reverse]

theorem seq_eq_map (s : St) : s.seq = s.seqL.map erase := by
  rw [St.seqL, St.outL, List.map_append, ← List.map_reverse, List.map_map]; rfl

theorem relabel_erase (a b : Nat) (ms : List Msg) : (relabel a b ms).map erase = ms.map erase := by
  rw [relabel_eq_map, List.map_map]
  exact List.map_congr_left fun m _ => (apply_ite erase ..).trans (ite_self _)

theorem mergeTail_seq (s : St) (a b e : Nat) (lcs : List Lc) : (s.mergeTail a b e lcs).seqL.map erase = s.seqL.map erase := by
  have hm : (s.merged a b e lcs).seqL.map erase = s.seqL.map erase := by simp [St.seqL, St.outL, relabel_erase]
  rcases mergeTail_cases s a b e lcs with ⟨e, _⟩ | ⟨_, tr, _, e⟩ <;> rw [e]
  · exact hm
  · rw [seqL_delivered _ _ tr [] (List.append_nil _).symm]
    exact hm

/-- `assign` changes labels only: the one it gives the message, and those a merge rewrites in the queue -/
theorem assign_seq (s : St) (m : Msg) : erase (s.assign m).2 = erase m ∧ (s.assign m).1.seqL.map erase = s.seqL.map erase := by
  cases assign_cases s m with
  | append _ eq =>
    rw [eq]
    exact ⟨rfl, rfl⟩
  | keep _ _ _ eq =>
    rw [eq]
    exact ⟨rfl, rfl⟩
  | merge _ _ _ _ eq =>
    rw [eq]
    dsimp only  -- `(_, _).1`, which the unifier would reach only after unfolding `mergeTail`
    exact ⟨rfl, mergeTail_seq ..⟩

theorem steps_seq (ms : List Msg) (s : St) (hs : s.panicked = false) (hok : s.ok) :
    (ms.foldl St.step s).seq = s.seq ++ ms.map erase := by
  rw [seq_eq_map, seq_eq_map]
  refine (steps_ind (R := fun t l => t.seqL.map erase = s.seqL.map erase ++ l.map erase ∧ t.ok) ms s hs ⟨by simp, hok⟩
    fun t l m ht => ?_).1
  obtain ⟨l1, l2⟩ := step_L t m ht.2
  obtain ⟨a1, a2⟩ := assign_seq t m
  refine ⟨?_, l2⟩
  rw [l1, List.map_append, a2, ht.1, List.map_singleton, a1, List.map_append, List.append_assoc]
  rfl

/-- C05: every message is forwarded exactly once, in the order received, unchanged except for the lifecycle assignment.
    (The hypothesis holds of every stream: `run_not_panicked`.) -/
theorem C05_once_in_order (ms : List Msg) (hp : (run ms).panicked = false) :
    (run ms).outSeq = ms.map erase := by
  rw [run, outSeq_eq_map, finish_L _ (steps_panicked ms {}), ← seq_eq_map, steps_seq ms {} rfl fun _ => rfl]
  rfl

#print axioms C05_once_in_order

theorem observe_out_m (s : St) : (observe s).out.map (·.m) = s.outSeq := by
  rw [St.outSeq, ← List.map_reverse]; exact List.map_map

end Lcm
