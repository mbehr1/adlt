import Adlt.Props.C05
/-! # C06 — a message's lifecycle is published before the message is delivered -/
namespace Props
open Lcm

/-- for every stream (no side condition) and every delivery point of the run: at the moment the
    message is handed to the downstream sender the reader-visible table (state after the last
    `refresh`) contains the message's lifecycle id, stored with the message's ECU. Consumer pacing
    cannot matter: publication and the outflow call happen in one thread, in this order. -/
theorem C06_published_first (ms : List Msg) : Spec.C06 (observe (run ms)) = true := C05_assigned_own_ecu ms

/-- the invariant behind it, exported: between any two steps every live lifecycle that is no longer
    buffered is published with its ECU, and every queued message refers to a live lifecycle of its ECU -/
theorem C06_invariant (ms : List Msg) : LInv (ms.foldl St.step {}) := steps_linv ms {} init_linv

example : (observe (run [ { index := 0, recv := 1000000000, ecu := 1, tsDms := 10000, hasTs := true, ctrlReq := false },
                 { index := 1, recv := 1200000000, ecu := 1, tsDms := 5000, hasTs := true, ctrlReq := false } ])).out.length = 2 := by
  decide

end Props
