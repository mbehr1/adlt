import Adlt.Dlt.CleanB
import Adlt.Gen.Consts
/-! # C01 — DLT framing: complete, faithful recovery of messages between garbage

Model: `Dp.parseStorage`, `Dp.parseSerial`, `Dp.iterAll` (= `DltMessageIterator`). -/
namespace Props
open Dp

/-- the header sizes the model hard-wires are the ones the Rust sources define (regenerated each run) -/
theorem C01_consts : Gen.dltStorageHeaderSize = 16 ∧ Gen.dltMinStdHeaderSize = 4 ∧ Gen.dltExtHeaderSize = 10
    ∧ Gen.dltSerialHeaderSize = 4 := by decide

/-- at a message start: every well-formed message (all 2^5 combinations of optional header parts, both byte orders, payload
    up to the 16-bit length limit), followed by anything on which the corruption heuristic does not fire, is recognised with every
    header field and payload byte intact, and exactly its bytes are consumed -/
theorem C01_storage_at_msg (i : Nat) (r : RawMsg) (hw : r.wf false = true) (rest : Bytes)
    (hh : heuristicFires storagePat (r.enc false ++ rest) (16 + r.len) = false) :
    parseStorage i (r.enc false ++ rest) = .ok ((r.enc false).length, r.msg false i) :=
  parseStorage_enc i r hw rest (by rw [enc_length false r hw]; exact hh)

theorem C01_serial_at_msg (i : Nat) (r : RawMsg) (hw : r.wf true = true) (rest : Bytes)
    (hh : heuristicFires serialPat (r.enc true ++ rest) (4 + r.len) = false) :
    parseSerial i (r.enc true ++ rest) = .ok ((r.enc true).length, r.msg true i) :=
  parseSerial_enc i r hw rest (by rw [enc_length true r hw]; exact hh)

/-- at a garbage offset (no marker, a minimal message still fits) both parsers answer `invalid`: the iterator skips one byte -/
theorem C01_at_garbage (i : Nat) (d : Bytes) :
    (20 ≤ d.length → isPat storagePat d = false → parseStorage i d = .error .invalid) ∧
    (8 ≤ d.length → isPat serialPat d = false → parseSerial i d = .error .invalid) :=
  ⟨parseStorage_garbage i d, parseSerial_garbage i d⟩

/-- the two stream theorems below, with the framing a variable -/
theorem C01_stream (serial : Bool) (i0 : Nat) (items : List Item) (hw : allWf serial items = true) (hc : Clean serial items)
    (fuel : Nat) (hf : (render serial items).length < fuel) :
    let r := iterAll fuel { index := i0 } (render serial items)
    r.1 = expected serial i0 items ∧ r.2.index = i0 + r.1.length ∧
    ∃ u, u ≤ tailGarbage items ∧ u < hdrLen serial + 4 ∧ r.2.processed + u = (render serial items).length ∧
      r.2.processed ≤ (render serial items).length ∧ r.2.skipped + u = garbageLen items := by
  -- no garbage is pending in front of the stream
  obtain ⟨sf, hrun, hidx, u, hutail, hushort, hproc, hskip⟩ :=
    iter_stream serial items [] fuel { index := i0 } (by cases serial <;> rfl) hw hc (fun _ hj => nomatch hj) hf
  rw [List.nil_append] at hrun hproc
  simp only [List.length_nil, ite_self, Nat.zero_add] at hutail
  rw [hrun]
  -- the counters start at 0
  have hproc' := hproc.trans (Nat.zero_add _)
  exact ⟨rfl, hidx, u, hutail, hushort, hproc', Nat.le.intro hproc', hskip.trans ((Nat.zero_add _).trans (Nat.zero_add _))⟩

/-- **whole stream, storage-header framing.** Over well-formed messages and runs of other bytes (`items`) in which neither frame
    marker begins except at the start of a message (`Clean`, markers straddling item boundaries included), the iterator started
    with index `i0` yields exactly those messages, in order, numbered from `i0`, every field and payload byte intact; `processed`
    never exceeds the input; `skipped` is the garbage except for an unconsumed tail `u` inside the garbage after the last message,
    shorter than a minimal message -/
theorem C01_storage_stream (i0 : Nat) (items : List Item) (hw : allWf false items = true) (hc : Clean false items)
    (fuel : Nat) (hf : (render false items).length < fuel) :
    let r := iterAll fuel { index := i0 } (render false items)
    r.1 = expected false i0 items ∧ r.2.index = i0 + r.1.length ∧
    ∃ u, u ≤ tailGarbage items ∧ u < 20 ∧ r.2.processed + u = (render false items).length ∧
      r.2.processed ≤ (render false items).length ∧ r.2.skipped + u = garbageLen items :=
  C01_stream false i0 items hw hc fuel hf

/-- **whole stream, serial-header framing**: the same, with an unconsumed tail shorter than a minimal serial message -/
theorem C01_serial_stream (i0 : Nat) (items : List Item) (hw : allWf true items = true) (hc : Clean true items)
    (fuel : Nat) (hf : (render true items).length < fuel) :
    let r := iterAll fuel { index := i0 } (render true items)
    r.1 = expected true i0 items ∧ r.2.index = i0 + r.1.length ∧
    ∃ u, u ≤ tailGarbage items ∧ u < 8 ∧ r.2.processed + u = (render true items).length ∧
      r.2.processed ≤ (render true items).length ∧ r.2.skipped + u = garbageLen items :=
  C01_stream true i0 items hw hc fuel hf

/-- the hypothesis the oracle evaluates on every generated stream (`Spec.inRange`: messages well-formed, linear marker scan
    `markerFree` passes) implies the hypotheses of the two stream theorems -/
theorem C01_oracle_hypothesis (serial : Bool) (items : List Item) (h : Spec.inRange serial items = true) :
    allWf serial items = true ∧ Clean serial items := by
  simp only [Spec.inRange, Bool.and_eq_true] at h
  exact ⟨h.1, markerFree_clean serial items h.2⟩

/-- non-vacuity: garbage, a minimal message, garbage containing the bytes `D L T` but no complete marker -/
example : Clean false [.g [1, 2, 3], .m { sh := [1,0,0,0, 2,0,0,0, 65,66,67,68], htyp := 0x20, mcnt := 8, add := [], payload := [] },
                       .g [0x44, 0x4c, 0x54, 0x02]] :=
  -- the oracle's linear scan passes
  markerFree_clean false _ (by decide)

/-- non-vacuity: a concrete message with ECU id, timestamp and extended header is well-formed -/
example : ({ sh := [1,0,0,0, 2,0,0,0, 65,66,67,68], htyp := 0x35, mcnt := 7,
             add := [69,67,85,49, 0,0,0,9, 0x41,1,65,80,73,68,67,84,73,68], payload := [1,2,3] } : RawMsg).wf false = true := by decide

end Props
