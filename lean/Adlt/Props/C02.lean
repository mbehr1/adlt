import Adlt.Dlt.RoundTrip
/-! # C02 — export fidelity: write/parse round trip and normal form

Model: `Dp.toWrite` (= `DltMessage::to_write`: storage header rebuilt from the message, standard header with recomputed
htyp / length, no ECU id or session id in it), `Dp.parseStorage`. The executable statement `Dp.Spec.C02one`, evaluated for every
message of every generated stream, asks of the bytes the implementation wrote for `m` what `C02_roundtrip_alone` concludes of
`toWrite m` (with timestamp 0 demanded where `m` has none, which `InRange.noTs` makes the same); it occurs in no theorem. -/
namespace Props
open Dp

/-- **round trip and normal form**, for every message in the range of the parser (`InRange`): `to_write` succeeds; parsing the
    written bytes - alone or followed by anything on which the corruption heuristic does not fire - consumes exactly them and gives
    back ECU, reception time, timestamp and its presence, counter, byte order, extended header and payload; writing the re-read
    message produces the same bytes again -/
theorem C02_roundtrip (m : Msg) (h : InRange m) (i : Nat) (rest : Bytes)
    (hh : ∀ w, toWrite m = some w → heuristicFires storagePat (w ++ rest) w.length = false) :
    ∃ w m', toWrite m = some w ∧ parseStorage i (w ++ rest) = .ok (w.length, m') ∧
      m'.ecu = m.ecu ∧ m'.recvUs = m.recvUs ∧ m'.tsDms = m.tsDms ∧ m'.std.hasTs = m.std.hasTs ∧ m'.std.mcnt = m.std.mcnt ∧
      m'.std.bigEndian = m.std.bigEndian ∧ m'.ext = m.ext ∧ m'.payload = m.payload ∧ m'.index = i ∧ toWrite m' = some w :=
  roundtrip m h i rest hh

/-- the case of a file that ends after the message: no side condition at all -/
theorem C02_roundtrip_alone (m : Msg) (h : InRange m) (i : Nat) :
    ∃ w m', toWrite m = some w ∧ parseStorage i w = .ok (w.length, m') ∧
      m'.ecu = m.ecu ∧ m'.recvUs = m.recvUs ∧ m'.tsDms = m.tsDms ∧ m'.std.hasTs = m.std.hasTs ∧ m'.std.mcnt = m.std.mcnt ∧
      m'.std.bigEndian = m.std.bigEndian ∧ m'.ext = m.ext ∧ m'.payload = m.payload ∧ m'.index = i ∧ toWrite m' = some w := by
  simpa only [List.append_nil] using roundtrip m h i [] (fun w _ => heuristic_nil w)

/-- everything `parse_dlt_with_storage_header` yields from a storage header with sub-second microseconds is in that range: what
    was read can always be exported (the rewritten header is never longer than the original one) -/
theorem C02_parsed_in_range (i : Nat) (d : Bytes) (n : Nat) (m : Msg) (h : parseStorage i d = .ok (n, m))
    (hmic : le32 ((d.drop 8).take 4) < 1000000) : InRange m := parse_inRange i d n m h hmic

/-- the re-parse step alone: an encoded well-formed message parses back -/
theorem C02_written_parses (i : Nat) (r : RawMsg) (hw : r.wf false = true) :
    parseStorage i (r.enc false ++ []) = .ok ((r.enc false).length, r.msg false i) :=
  parseStorage_enc i r hw [] (heuristic_nil _)

/-- non-vacuity: a message with timestamp flag set and timestamp 0, big endian, extended header -/
example : InRange { index := 0, recvUs := 1700000000123456, ecu := [69, 67, 85, 49], tsDms := 0,
                    std := { htyp := 0x33, mcnt := 9, len := 0 }, ext := some [0x41, 1, 65, 80, 73, 68, 67, 84, 73, 68], payload := [1, 2, 3] } := by
  refine ⟨rfl, ?_, by decide, by decide, by decide, by decide⟩
  intro e he; cases he; rfl

end Props
