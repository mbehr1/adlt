import Adlt.Chain.Refine
import Adlt.Zip.Proofs
/-! # C20 — archives: volumes read as one file; extraction faithful and confined

Model: `Chn.Chain` (= `SeekableChain` over readers with their own positions). Contract: `Chn.contractOk`
(the `Read`/`Seek` contract of one object holding the concatenation; short reads legal).
Extraction: `Zipm`, model of `extract_archives` / `extract_to_dir`; glob matcher and archive reader are parameters. -/
namespace Props
open Chn

/-- for every split of the data into volumes (empty volumes anywhere) and every finite sequence of
    `read k` / `seek(Start|Current|End)` operations, the answers of the chain are legal answers of a single
    file containing the concatenated volumes, position by position -/
theorem C20_chain_refines (vols : List (List Nat)) (ops : List Op) :
    contractOk vols.flatten 0 ops ((Chain.new vols).run ops) = true :=
  run_contract ops (Chain.new vols) (new_inv vols)

/-- a read of at least one byte before the end returns at least one byte, after any history (so reading on does reach the
    end; what is returned is said by `C20_chain_refines`) -/
theorem C20_read_progress (c : Chain) (hi : Inv c) (k : Nat) (hk : 0 < k) (hp : c.absPos < c.vols.flatten.length) :
    0 < (c.read k).1.length :=
  (read_ok c k hi).nonempty.resolve_right fun h => h.elim (Nat.ne_of_gt hk) (Nat.not_le.mpr hp)

/-- **confinement**: whatever the member name, a name the `enclosed_name` walk accepts, joined onto any directory,
    resolves (lexically: `.`, `..`, empty parts) to a path below that directory (that only members with an enclosed name
    are written is `C20_extract_sound`) -/
theorem C20_extract_confined (base : List String) (name : String) (h : (Zipm.enclosedName name).isSome = true) :
    ∃ rel, Zipm.resolve base (Zipm.comps name) = base ++ rel :=
  Zipm.confined base _ (Zipm.enclosedName_isSome name ▸ h)

/-- every extracted file is a file member of the archive that has an enclosed name and is in the files filter, and its
    content is the member's content -/
theorem C20_extract_sound (filter : List String) (rm : Option (String × String)) (ms : List Zipm.Member) (n : String) (d : List UInt8)
    (h : (n, d) ∈ Zipm.extract filter rm ms) :
    ∃ m ∈ ms, ∃ e, m.enclosed = some e ∧ filter.contains e = true ∧ m.kind = .file ∧ n = Zipm.renamed rm e ∧ d = m.data := by
  open Zipm in
  unfold extract at h
  simp only [List.mem_filterMap, extractOne] at h
  obtain ⟨m, hm, hx⟩ := h
  cases he : m.enclosed with
  | none => simp [he] at hx
  | some e =>
    simp only [he] at hx
    split at hx
    · rename_i hc
      simp only [Option.some.injEq, Prod.mk.injEq] at hx
      simp only [Bool.and_eq_true, beq_iff_eq] at hc
      exact ⟨m, hm, e, he, hc.1, hc.2, hx.1.symm, hx.2.symm⟩
    · simp at hx

/-- **exactness**: for every pattern matcher, exactly the file members that match the pattern (by name or by glob) and
    whose names do not lead outside are extracted and reported, each once, in archive order (archives other than the
    single-entry `data` case; the reader hands out the stored name as enclosed name) -/
theorem C20_extract_exact (pat : String) (g : String → Bool) (stem : String) (ms : List Zipm.Member)
    (hd : ms.map (·.name) ≠ ["data"])
    (he : ∀ m ∈ ms, m.enclosed = none ∨ m.enclosed = some m.name) :
    (Zipm.extractArchive pat g stem (ms.map (·.name)) ms).map (·.1) = (ms.filter (Zipm.Spec.selected pat g)).map (·.name) := by
  open Zipm in
  unfold extractArchive matching
  rw [if_neg (mt beq_iff_eq.mp hd)]
  dsimp only  -- the pair bound by `let (f, rm)`
  generalize hF : (List.filter (fun e => (e == pat || g e) && !e.endsWith "/") (List.map (fun x => x.name) ms)) = F
  have hFmem : ∀ m ∈ ms, F.contains m.name = ((m.name == pat || g m.name) && !m.name.endsWith "/") := fun m hm => by
    rw [← hF, Bool.eq_iff_iff, List.contains_iff_mem, List.mem_filter]
    exact ⟨And.right, fun h => ⟨List.mem_map_of_mem hm, h⟩⟩
  have hpt : ∀ m ∈ ms, extractOne F none m = if Spec.selected pat g m then some (m.name, m.data) else none := by
    intro m hm
    unfold extractOne
    rcases he m hm with h0 | h1
    · simp [h0, Spec.selected]
    · -- the two tests are the same conjunction in another order
      have hsel : Spec.selected pat g m = (F.contains m.name && m.kind == .file) := by
        rw [hFmem m hm, Spec.selected, h1, Option.isSome_some, Bool.and_true, Bool.and_assoc, Bool.and_comm]
      simp only [h1, renamed, hsel]
  have hemp : (if F.isEmpty = true then [] else extract F none ms) = extract F none ms :=
    ite_eq_right_iff.mpr fun h => by rw [List.isEmpty_iff.1 h, extract_nil]
  rw [hemp]
  unfold extract
  rw [filterMap_eq_filter_map _ (Spec.selected pat g) (fun m => (m.name, m.data)) ms hpt]
  simp [List.map_map, Function.comp_def]

/-- what lands: whatever lands was selected and can be created as a file, and no two landed files denote the same path - no
    member's content is overwritten by another's (`a.dlt`, `./a.dlt`) -/
theorem C20_land_faithful (l : List (String × List UInt8)) :
    (∀ x ∈ Zipm.land l, x ∈ l ∧ Zipm.creatable x.1 = true) ∧ ((Zipm.land l).map Zipm.pathOf).Nodup :=
  ⟨fun x hx => ((Zipm.landGo_spec l []).2 x hx).imp_right And.left, (Zipm.landGo_spec l []).1⟩

/-- ... and when every selected name can be created and no two denote the same path, every selected member lands -/
theorem C20_land_all (l : List (String × List UInt8)) (hc : ∀ x ∈ l, Zipm.creatable x.1 = true)
    (hn : (l.map Zipm.pathOf).Nodup) : Zipm.land l = l := Zipm.landGo_id l [] hc hn fun _ _ => List.not_mem_nil

/-- non-vacuity: hostile names (`../evil.dlt`, `/etc/hostname`) are refused by the walk, a harmless `..` inside
    (`dir/../x.dlt`) is accepted and stays below the directory -/
example : Zipm.staysInside [.parent, .normal "evil.dlt"] = false ∧ Zipm.staysInside [.root, .normal "etc", .normal "hostname"] = false ∧
    Zipm.staysInside [.normal "dir", .parent, .normal "x.dlt"] = true := by decide
example : Zipm.resolve ["tmp", "t1"] [.normal "dir", .parent, .normal "x.dlt"] = ["tmp", "t1", "x.dlt"] := rfl

/-- non-vacuity: the inputs of the two defects recorded in DESIGN.md (empty middle volume; seek past the end) -/
example : (Chain.new [[1, 2], [], [3, 4]]).run [.read 8, .read 8, .seekEnd 2, .read 1, .seekCur (-9)]
    = [.data [1, 2], .data [3, 4], .pos 6, .data [], .err] := by decide

end Props
