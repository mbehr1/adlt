import Adlt.Lc.Fifo
import Adlt.Lc.Spec
import Adlt.Lc.Counts
/-! # C05 — lifecycle detection forwards every message once, in order, assigned

Statements are about `Lcm.run` (model of `parse_lifecycles_buffered_from_stream`), for **every**
message list, without side condition: no operation of the model sets the `panicked` flag (the assertion it stood for
left the code with fix cf29dd5), see `C05_never_stops`. -/
namespace Props
open Lcm

/-- every message is delivered exactly once, in the order received, unchanged except for the lifecycle field -/
theorem C05_once_in_order (ms : List Msg) :
    Spec.C05order ms (observe (run ms)) = true := by
  rw [Spec.C05order, observe_out_m, Lcm.C05_once_in_order ms (run_not_panicked ms)]
  exact beq_self_eq_true _

/-- the id a delivered message carries names, in the shared table at that moment, a lifecycle of the message's own ECU -/
theorem C05_assigned_own_ecu (ms : List Msg) : Spec.C06 (observe (run ms)) = true := by
  simp only [Spec.C06, observe, List.all_eq_true, List.mem_map, List.mem_reverse]
  rintro x ⟨o, ho, rfl⟩
  exact Lcm.C06_published_first ms o ho

/-- every delivered message carries a non-zero lifecycle id: the id of a lifecycle that is live at the end (`run_counts`:
    merging relabels queued messages to live ids, and no delivered id is ever merged away), and ids are handed out from 1 -/
theorem C05_nonzero_id (ms : List Msg) : Spec.C05nonzero (observe (run ms)) = true := by
  simp only [Spec.C05nonzero, observe, List.all_eq_true, List.mem_map, List.mem_reverse]
  rintro x ⟨o, ho, rfl⟩
  obtain ⟨lc, ⟨p, hp, hlc⟩, hid, _⟩ := (run_counts ms).2 (o.m.lc, o.m.ecu) (List.mem_map.mpr ⟨o, ho, rfl⟩)
  have := (run_inv ms).idpos.live p (finish_ecuMap _ ▸ hp) lc hlc
  exact bne_iff_ne.mpr (Nat.ne_of_gt (Nat.lt_of_lt_of_eq this hid))

/-- the whole statement as the oracle evaluates it on the implementation: once, in order, unchanged but for the lifecycle
    field, id non-zero and naming a published lifecycle of the message's own ECU -/
theorem C05_full (ms : List Msg) : Spec.C05 ms (observe (run ms)) = true := by
  have h1 := C05_once_in_order ms
  have h2 := C05_assigned_own_ecu ms
  have h3 := C05_nonzero_id ms
  simp only [Spec.C05, Spec.C05order, Spec.C06, Spec.C05nonzero, Bool.and_eq_true, List.all_eq_true] at *
  exact ⟨h1, fun x hx => ⟨h3 x hx, h2 x hx⟩⟩

/-- the detector model never stops at an internal assertion, whatever the stream -/
theorem C05_never_stops (ms : List Msg) : (run ms).panicked = false := run_not_panicked ms

/-- a concrete two-ECU stream with a reboot, evaluated -/
example : (run [ { index := 0, recv := 1000000000, ecu := 1, tsDms := 10000, hasTs := true, ctrlReq := false },
                 { index := 1, recv := 1000500000, ecu := 2, tsDms := 20000, hasTs := true, ctrlReq := false },
                 { index := 2, recv := 1200000000, ecu := 1, tsDms := 5000, hasTs := true, ctrlReq := false } ]).panicked = false := by
  decide

end Props
