import Adlt.Lc.Spec
import Adlt.Lc.Listing
import Adlt.Lc.Table
import Adlt.Lc.Counts
import Adlt.Lc.ResumeKey
/-! # C07 — final lifecycle table consistent with delivered messages; the listing

Listing part: theorems about the model of `get_sorted_lifecycles_as_vec` for every table.
Counts part: the published table at the end is the live table (`C07_listed_once`, `C07_listed_are_live`,
`C07_live_are_listed`), its counts add up (`C07_counts_sum`), and per lifecycle (`C07_count_exact`, `C07_referenced`,
`C07_covers`, `C07_ecu`): each listed count is the number of delivered messages that carry the id, at least one; every delivered
id is listed, with the ECU of the message. Together: the executable statement `Spec.C07` holds of the model's observation for
every stream (`C07_spec`); the same `Spec.C07` is evaluated on the implementation's output on every run. -/
namespace Props
open Lcm

/-- the listing contains each lifecycle of the table exactly once (it is a permutation of the table) -/
theorem C07_listing_perm (t : List LcE) : (listing t).Perm t := isortStable_perm (keyLe t) t

/-- the listing can always be produced and is ordered by the (total) sort key, for every table -/
theorem C07_listing_sorted (t : List LcE) : (listing t).Pairwise (fun a b => keyLe t a b = true) :=
  isortStable_sorted (keyLe t) t (keyLe_totalPre t t)

/-- when no resume was detected, the listing is ordered by start time -/
theorem C07_listing_noresume (t : List LcE) (h : ∀ e ∈ t, e.resume = none) :
    (listing t).Pairwise (fun a b => a.start ≤ b.start) := by
  have hm : ∀ x, x ∈ listing t → x ∈ t := fun x hx => (C07_listing_perm t).mem_iff.mp hx
  refine List.Pairwise.imp_of_mem ?_ (C07_listing_sorted t)
  intro a b ha hb hab
  rw [keyLe_iff, LexLe, effStart_none t a (h a (hm a ha)), effStart_none t b (h b (hm b hb))] at hab
  exact hab.elim Nat.le_of_lt fun h => Nat.le_of_eq h.1

/-- for every table (ids distinct, as in a map): a lifecycle `b` that resumes `a` (which has the
    smaller id) is never listed before `a` — whatever the start-time estimates are -/
theorem C07_listing_resume (t : List LcE) (hnd : (t.map (·.id)).Nodup) (a b : LcE) (ha : a ∈ t)
    (hres : b.resume = some a.id) (hid : a.id < b.id) :
    ¬ List.Sublist [b, a] (listing t) := by
  intro hsub
  -- `b` in front of `a` would have a key not above that of `a`, but its effective start is at least `a`'s and its id larger
  have hs := List.rel_of_pairwise_cons ((C07_listing_sorted t).sublist hsub) List.mem_cons_self
  rw [keyLe_iff, LexLe, effStart_resumes t hnd a b ha hres hid] at hs
  exact hs.elim (Nat.not_lt.mpr (Nat.le_max_right ..)) fun h => Nat.not_lt.mpr h.2 hid

/-- non-vacuity: `3` resumes `2`, its start estimate lies before both others (a table on which comparing
    start estimates pairwise is cyclic); the hypotheses of `C07_listing_resume` hold for it -/
example :
    let t : List LcE := [ { id := 3, start := 1699999990501000, resume := some 2 },
                          { id := 1, start := 1700000000000000, resume := none },
                          { id := 2, start := 1700000000500000, resume := none } ]
    (t.map (·.id)).Nodup ∧ ({ id := 2, start := 1700000000500000, resume := none } : LcE) ∈ t := by decide

/-! ## the published table at the end of the stream -/

theorem eraseDups_of_nodup (l : List Nat) (h : l.Nodup) : l.eraseDups = l := by
  induction l with
  | nil => simp
  | cons a t ih =>
    rw [List.eraseDups_cons]
    have hn := List.nodup_cons.mp h
    have hf : t.filter (fun b => !b == a) = t := by
      apply List.filter_eq_self.mpr
      intro b hb
      have : b ≠ a := fun hc => hn.1 (hc ▸ hb)
      simp [this]
    rw [hf, ih hn.2]

theorem observe_tbl_ids (s : St) : (observe s).tbl.map (·.id) = keys s.published := by
  simp [observe, keys, Function.comp_def]

/-- every lifecycle id is listed once -/
theorem C07_listed_once (ms : List Msg) : Spec.C07listedOnce (observe (run ms)) = true := by
  rw [Spec.C07listedOnce, observe_tbl_ids, eraseDups_of_nodup _ (run_final ms).2.2, beq_iff_eq]
  simp [observe, keys]

/-- **no invalidated lifecycle is listed**: every listed entry is a lifecycle that is live at the end - never one that was
    merged into another -, listed under its own id with its final ECU, message count, start and end -/
theorem C07_listed_are_live (ms : List Msg) :
    ∀ t ∈ (observe (run ms)).tbl, ∃ lc, Live (run ms).ecuMap lc ∧ lc.id = t.id ∧ t.ecu = lc.ecu ∧ t.n = lc.nrMsgs ∧
      t.start = lc.start ∧ t.endT = lc.endTime := by
  obtain ⟨_, t2, _⟩ := run_final ms
  intro t ht
  obtain ⟨kv, hkv, rfl⟩ := List.mem_map.mp ht
  obtain ⟨hl, hid⟩ := t2 kv hkv
  exact ⟨kv.2, hl, hid, rfl, rfl, rfl, rfl⟩

/-- ... and every live lifecycle is listed, with its final values -/
theorem C07_live_are_listed (ms : List Msg) (lc : Lc) (hl : Live (run ms).ecuMap lc) :
    ∃ t ∈ (observe (run ms)).tbl, t.id = lc.id ∧ t.ecu = lc.ecu ∧ t.n = lc.nrMsgs :=
  ⟨_, live_tblObs ms lc hl, rfl, rfl, rfl⟩

/-- **the counts add up**: the message counts of the listed lifecycles sum to the number of delivered messages -/
theorem C07_counts_sum (ms : List Msg) : Spec.C07sum (observe (run ms)) = true := by
  simp only [Spec.C07sum, observe, List.map_map, List.length_map, List.length_reverse, beq_iff_eq]
  exact table_counts_sum ms

/-! ## per lifecycle -/

theorem countLc_eq (s : St) (id : Nat) : Spec.countLc (observe s) id = cntI id s.outIds := by
  simp only [Spec.countLc, observe, cntI, St.outIds, List.filter_map, List.length_map, List.filter_reverse, List.length_reverse]
  rfl

/-- **exact counts**: the count listed for a lifecycle is the number of delivered messages carrying its id - and at least one -/
theorem C07_count_exact (ms : List Msg) :
    ∀ t ∈ (observe (run ms)).tbl, t.n = Spec.countLc (observe (run ms)) t.id ∧ 1 ≤ t.n := by
  intro t ht
  obtain ⟨lc, hl, hid, _, hn, _⟩ := C07_listed_are_live ms t ht
  have := (run_counts ms).1 lc hl
  rw [countLc_eq, ← hid, hn]
  exact this

/-- every delivered lifecycle id is listed, with the ECU of the message -/
theorem C07_delivered_listed (ms : List Msg) :
    ∀ x ∈ (observe (run ms)).out, ∃ t ∈ (observe (run ms)).tbl, t.id = x.lc ∧ t.ecu = x.m.ecu := by
  intro x hx
  obtain ⟨o, ho, rfl⟩ := List.mem_map.mp hx
  have hin : (o.m.lc, o.m.ecu) ∈ (run ms).outIds := List.mem_map.mpr ⟨o, List.mem_reverse.mp ho, rfl⟩
  obtain ⟨lc, hl, h1, h2⟩ := (run_counts ms).2 _ hin
  obtain ⟨t, ht, t1, t2, _⟩ := C07_live_are_listed ms lc hl
  exact ⟨t, ht, t1.trans h1, t2.trans h2⟩

theorem C07_referenced (ms : List Msg) : Spec.C07referenced (observe (run ms)) = true := by
  simp only [Spec.C07referenced, List.all_eq_true, bne_iff_ne, ne_eq]
  intro t ht
  have := C07_count_exact ms t ht
  omega

theorem C07_exact (ms : List Msg) : Spec.C07exact (observe (run ms)) = true := by
  simp only [Spec.C07exact, List.all_eq_true, Bool.or_eq_true, beq_iff_eq]
  intro t ht
  exact .inr (C07_count_exact ms t ht).1

theorem C07_covers (ms : List Msg) : Spec.C07covers (observe (run ms)) = true := by
  simp only [Spec.C07covers, List.all_eq_true, List.any_eq_true, beq_iff_eq]
  intro x hx
  obtain ⟨t, ht, h1, _⟩ := C07_delivered_listed ms x hx
  exact ⟨t, ht, h1⟩

theorem C07_ecu (ms : List Msg) : Spec.C07ecu (observe (run ms)) = true := by
  simp only [Spec.C07ecu, List.all_eq_true, Bool.or_eq_true, bne_iff_ne, ne_eq, beq_iff_eq]
  intro x hx t ht
  by_cases hid : t.id = x.lc
  · right
    obtain ⟨t', ht', h1, h2⟩ := C07_delivered_listed ms x hx
    -- ids are listed once: `t` is `t'`
    rw [map_inj_of_nodup (·.id) _ (observe_tbl_ids _ ▸ (run_final ms).2.2) t t' ht ht' (hid.trans h1.symm), h2]
  · exact .inl hid

/-- **the listing `adlt remote` sends**: it is ordered by `resume_start_time`, and at the end of every stream a lifecycle that
    resumes another one finds that one live, in its own ECU, with a strictly smaller key - along whole chains of resumes, however
    the start estimates cross: a resumed lifecycle is never placed before the one it resumes -/
theorem C07_remote_key_ordered (ms : List Msg) (b : Lc) (hb : Live (run ms).ecuMap b) (r : Resume) (hr : b.resume = some r) :
    ∃ a, Live (run ms).ecuMap a ∧ a.id = r.id ∧ a.ecu = b.ecu ∧ a.resumeStart < b.resumeStart :=
  resume_key_ordered ms b hb r hr

/-- **C07, counts part, for every stream**: the executable statement that the driver evaluates on the implementation's output
    holds of the model's observation -/
theorem C07_spec (ms : List Msg) : Spec.C07 (observe (run ms)) = true := by
  simp only [Spec.C07, Bool.and_eq_true]
  exact ⟨⟨⟨⟨⟨C07_listed_once ms, C07_referenced ms⟩, C07_exact ms⟩, C07_covers ms⟩, C07_ecu ms⟩, C07_counts_sum ms⟩

/-- non-vacuity: a stream of two ECUs, evaluated -/
example : Spec.C07 (observe (run [
    { index := 0, recv := 1000000, ecu := 1, tsDms := 10, hasTs := true, ctrlReq := false, lc := 0 },
    { index := 1, recv := 1100000, ecu := 2, tsDms := 20, hasTs := true, ctrlReq := false, lc := 0 },
    { index := 2, recv := 90000000, ecu := 1, tsDms := 30, hasTs := true, ctrlReq := false, lc := 0 }])) = true := by decide

end Props
