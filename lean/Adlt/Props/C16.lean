import Adlt.Remote.Proofs
import Adlt.Remote.Srv
import Adlt.Remote.IncrProofs
import Adlt.Remote.Late
import Adlt.Remote.TimeLookup
import Adlt.Gen.Consts
/-! # C16 — streams deliver exactly the requested window of the filtered log; paging and lookups   (partial)

The dispatcher model says what a client has received once the server has processed the whole file (`Srv.delivered`).
That the server gets there for every arrival pattern of parsed messages is proved about the model `Inc` of the incremental
index (`process_stream_new_msgs`) and the window sender (second half of this file: every schedule of arrivals, rounds with
any chunk size, and window changes). That the running server agrees with both models is observed (the harness lets the
server parse while it talks to it, and ties `process_stream_new_msgs` at library level). -/
namespace Props
open Rem

/-- what is delivered under an id is the positions `[start, stop)` of the stream's sequence: the `i`-th delivered message
    is the `(start+i)`-th of the sequence as long as `start + i < stop`, and nothing else follows -/
theorem C16_window_exact (seq : List Nat) (a b i : Nat) :
    (window seq a b)[i]? = (if a + i < b then seq[a + i]? else none) ∧
    (window seq a b).length = min b seq.length - a :=
  ⟨window_getElem? seq a b i, window_length seq a b⟩

/-- the sequence of a stream with filters is exactly the file positions whose message passes the filters, ascending
    (so each once, in file order); without filters it is the whole file -/
theorem C16_sequence_is_filtered_log (s : Stream) (ms : List RMsg) (n : Nat) :
    ((s.seq ms n).Pairwise (· < ·)) ∧
    (s.filters.isEmpty = true → s.seq ms n = List.range ms.length) ∧
    (s.filters.isEmpty = false → s.isStream = true →
      ∀ q, q ∈ s.seq ms n ↔ ∃ m, ms[q]? = some m ∧ keeps s.filters m = true) :=
  ⟨seq_sorted s ms n, seq_unfiltered s ms n, fun hf hs q => seq_stream_mem s ms n q hf hs⟩

/-- the announcement of a stream records exactly that window for the new id, and for no id announced before -/
theorem C16_stream_delivers_window (s : Srv) (files ms : List RMsg) (fs : FSpec) (a b : Nat) (str : Bool)
    (hf : s.file = some ms) :
    (s.step files (.stream str fs a b)).1.delivered =
      s.delivered ++ [(s.nextK, window (({ k := s.nextK, isStream := str, filters := fs, start := a, stop := b } : Stream).seq ms b) a b)] := by
  rw [step_stream s files ms str fs a b hf]

/-- search paging: a page followed by all matches from the continuation position is all matches from the start position —
    nothing skipped or examined twice; a continuation is only offered inside the stream and only when the page is full -/
theorem C16_search_paging (seq : List Nat) (ms : List RMsg) (fs : FSpec) (i maxR : Nat) (hi : i ≤ seq.length) :
    (search seq ms fs i maxR).1 ++
      (match (search seq ms fs i maxR).2 with
       | some n => allHits seq ms fs n
       | none => []) = allHits seq ms fs i ∧
    (∀ n, (search seq ms fs i maxR).2 = some n → i ≤ n ∧ n < seq.length ∧ maxR ≤ (search seq ms fs i maxR).1.length) := by
  obtain ⟨d, h1, h2, h3, h4⟩ := search_go_spec ms fs maxR (seq.drop i) i []
  rw [List.length_drop] at h2 h4
  rw [List.drop_drop, List.reverse_nil, List.nil_append, h1] at h3
  dsimp only [search, allHits]; rw [h1]
  rw [← h3]
  by_cases hlt : i + d < seq.length
  · rw [if_pos hlt]; exact ⟨rfl, fun n hn => by cases hn; exact ⟨Nat.le_add_right _ _, hlt, h4 (Nat.lt_sub_iff_add_lt'.2 hlt)⟩⟩
  · rw [if_neg hlt]; exact ⟨by rw [List.drop_eq_nil_of_le (Nat.le_of_not_lt hlt)]; rfl, fun n hn => by cases hn⟩

/-- index / time lookups: the returned position is that of the first stream message not before the wanted file position —
    everything before it is earlier, everything from it on is not -/
theorem C16_lookup_first_not_before (seq : List Nat) (p : Nat) (hs : seq.Pairwise (· < ·)) :
    (∀ i, i < lowerBound seq p → ∃ q, seq[i]? = some q ∧ q < p) ∧
    (∀ i q, lowerBound seq p ≤ i → seq[i]? = some q → p ≤ q) := by
  refine ⟨fun i hi => ?_, fun i q hi hq =>
    Nat.le_of_not_lt (takeWhile_sorted (· < p) seq (hs.imp fun hab hb => Nat.lt_trans hab hb) i q hi hq)⟩
  have hq := List.getElem?_eq_getElem (Nat.lt_of_lt_of_le hi (List.takeWhile_sublist _).length_le)
  exact ⟨_, hq, (takeWhile_spec (· < p) seq).1 i _ hi hq⟩

/-- time lookups: the model answers with the first file position whose time (`RMsg.time`, the key of the time sort) is not
    before the wanted one: everything in front is earlier, the message there is not; on a file ordered by that time (opened
    with `sort`) nothing from there on is earlier and the position is the only such one: what `partition_point` returns -/
theorem C16_time_lookup (ms : List RMsg) (t : Nat) :
    (∀ i m, i < timePos ms t → ms[i]? = some m → m.time < t) ∧ (∀ m, ms[timePos ms t]? = some m → t ≤ m.time) ∧
    (ms.Pairwise (fun a b => a.time ≤ b.time) → ∀ i m, timePos ms t ≤ i → ms[i]? = some m → t ≤ m.time) ∧
    (∀ p', p' ≤ ms.length → (∀ i m, i < p' → ms[i]? = some m → m.time < t) → (∀ i m, p' ≤ i → ms[i]? = some m → t ≤ m.time) →
      p' = timePos ms t) :=
  ⟨(timePos_spec ms t).1, (timePos_spec ms t).2, timePos_sorted ms t, timePos_unique ms t⟩

/-- for every schedule of arrivals, server rounds (any chunk size) and window changes: the index is exactly the filtered
    log below the progress mark, and what has been sent under the current id is the positions `[start, sentEnd)` of the stream -/
theorem C16_any_schedule_invariant (keep : Nat → Bool) (pc : Nat) (isStream fa : Bool) (a b : Nat) (evs : List Inc.Ev) :
    let s := Inc.runEv keep pc (Inc.SC.new isStream fa a b) evs
    (s.filtersActive = true → s.filtered = Inc.matchRange keep 0 s.processed) ∧ s.processed ≤ s.allLen ∧
    s.delivered = (s.seqNow.take s.sentEnd).drop s.start := by
  have h := Inc.inv_run pc evs (Inc.inv_new keep isStream fa a b)
  exact ⟨h.idx, h.le, h.del⟩

/-- when the stream has settled (all messages indexed — or a query has all it can use — and nothing left to send) the
    client has received exactly the window `[start, stop)` of the complete filtered log, whatever the schedule was -/
theorem C16_settled_is_window (keep : Nat → Bool) (pc : Nat) (isStream fa : Bool) (a b : Nat) (evs : List Inc.Ev)
    (hs : Inc.Settled (Inc.runEv keep pc (Inc.SC.new isStream fa a b) evs)) :
    let s := Inc.runEv keep pc (Inc.SC.new isStream fa a b) evs
    s.delivered = window (Inc.fullSeq keep s.filtersActive s.allLen) s.start s.stop :=
  Inc.settled_delivered (Inc.inv_run pc evs (Inc.inv_new keep isStream fa a b)) hs

/-- and it does settle: once no more messages arrive, finitely many rounds (any chunk size ≥ 1) deliver the window -/
theorem C16_eventually_settles (keep : Nat → Bool) (pc c : Nat) (hc : 1 ≤ c) (hpc : 1 ≤ pc) (isStream fa : Bool) (a b : Nat)
    (evs : List Inc.Ev) :
    let s := Inc.runEv keep pc (Inc.SC.new isStream fa a b) evs
    ∃ k, (Inc.ticks keep pc c k s).delivered = window (Inc.fullSeq keep s.filtersActive s.allLen) s.start s.stop :=
  Inc.ticks_deliver keep pc c hc hpc _ _ (Inc.inv_run pc evs (Inc.inv_new keep isStream fa a b)) (Nat.lt_succ_self _)

/-- the constants of the code satisfy the side conditions of `C16_eventually_settles` -/
theorem C16_consts : 1 ≤ Gen.remotePartChunkK * 1024 ∧ 1 ≤ Gen.remoteMaxChunk := by decide

/-- non-vacuity: 10 messages, even positions match; arrival in batches 3/7, chunk sizes 2 and 100, a window change -/
example :
    let keep : Nat → Bool := fun p => p % 2 == 0
    let s := Inc.runEv keep 4 (Inc.SC.new true true 1 3) [.arrive 3, .tick 2, .arrive 7, .tick 100, .tick 100]
    let s2 := Inc.runEv keep 4 s [.cw 0 2, .tick 1]
    s.filtered = [0, 2, 4, 6, 8] ∧ s.delivered = [2, 4] ∧ Inc.Settled s ∧ s2.delivered = [0, 2] := by decide

/-- collect mode `one_pass_streams`: a stream created after `drained` messages were dropped starts behind them. With nothing
    dropped the round is the ordinary one; a stream without filters has, after a round, processed every message received so
    far (the defect repaired by f47693d broke this); a filtered one indexes exactly the matches behind the dropped ones -/
theorem C16_late_stream_rounds (keep : Nat → Bool) (pc : Nat) (s : Inc.SC) (c drained : Nat) :
    (s.processed ≤ s.allLen → Inc.procNewD keep pc s c 0 = Inc.procNew keep pc s c) ∧
    (s.filtersActive = false → drained < s.allLen → s.processed ≤ s.allLen → (Inc.procNewD keep pc s c drained).processed = s.allLen) ∧
    (s.filtersActive = true → s.isStream = true → s.processed = 0 → s.filtered = [] → drained < s.allLen →
      (Inc.procNewD keep pc s c drained).filtered =
        Inc.matchRange keep drained ((Inc.procNewD keep pc s c drained).processed - drained) ∧
      drained ≤ (Inc.procNewD keep pc s c drained).processed ∧ (Inc.procNewD keep pc s c drained).processed ≤ s.allLen) :=
  ⟨Inc.procNewD_of_le keep pc s c 0 (Nat.zero_le _), Inc.procNewD_unfiltered_mark keep pc s c drained, Inc.procNewD_stream_index keep pc s c drained⟩

/-- non-vacuity: three messages, the filter keeps 0 and 2; window [1,3) of that is message 2; search pages of size 1 -/
example :
    let ms : List RMsg := [{ index := 0, ecu := 0, recv := 1, tsDms := 1, apid := "A", ctid := "C", text := "x" },
                           { index := 1, ecu := 1, recv := 2, tsDms := 2, apid := "B", ctid := "C", text := "y" },
                           { index := 2, ecu := 0, recv := 3, tsDms := 3, apid := "A", ctid := "D", text := "x" }]
    let st : Stream := { k := 1, isStream := true, filters := [(false, .ecu 0)], start := 1, stop := 3 }
    st.seq ms 3 = [0, 2] ∧ window (st.seq ms 3) 1 3 = [2] ∧
    search (List.range 3) ms [(false, .ecu 0)] 0 1 = ([0], some 1) ∧
    search (List.range 3) ms [(false, .ecu 0)] 1 1 = ([2], none) ∧ lowerBound [0, 2] 1 = 1 := by decide

end Props
