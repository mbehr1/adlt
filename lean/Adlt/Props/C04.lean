import Adlt.Dlt.Chunked
import Adlt.Dlt.Position
/-! # C04 — parsing depends only on the bytes, not on read chunking or position

Model: `Lmk.LM` (= `LowMarkBufReader` over a source with an arbitrary short-read schedule). `orig` is the
source as it was at construction; the logical position of the reader is `absPos + pos`. `Dp.iterLM` is the iterator
reading through it.

In order: what the reader hands out (invariant, `fill_buf`, `read`, `seek`); the window lemma for the parser; a ready reader
offers the low mark or all that is left. These three give chunking independence: every attempt of the iterator sees a window that
is the whole rest or long enough for the window lemma, so it answers as on the whole rest (Dlt/Chunked.lean). Position: the
iterator commutes with renumbering (`Dp.iterAll_shift`) and walks over complete messages in front (`Dp.iter_prefix`, from the
message step of C01), which gives the partial statement; two witnesses show that it fails with nothing in front. -/
namespace Props
open Lmk

/-- the buffered bytes are the source's bytes at their absolute position: true of `new`, kept by `fill` (every schedule of
    short reads, any number of compactions), `consume`, `read` and `seek` -/
theorem C04_reader_invariant (orig : List Nat) (capacity lowMark : Nat) (sched : List Nat) :
    Inv orig (LM.new capacity lowMark orig sched) ∧
    (∀ s, Inv orig s → Inv orig s.fill) ∧ (∀ s n, Inv orig s → Inv orig (s.consume n)) ∧
    (∀ s k, Inv orig s → Inv orig (s.read k).2) ∧ (∀ s n, Inv orig s → Inv orig (s.seekStart n).2) :=
  have hfill : ∀ s, Lmk.Inv orig s → Lmk.Inv orig s.fill := fun s h => (fill_grows orig s h).elim fun _ f => f.inv
  ⟨new_inv capacity lowMark orig sched, hfill, ops_ind (Lmk.Inv orig) hfill (inv_pos orig)⟩

/-- `fill_buf` hands out exactly the source from the logical position on, never moves that position, never shrinks the look-ahead -/
theorem C04_fill_hands_out_source (orig : List Nat) (s : LM) (hi : Inv orig s) :
    s.fill.window = (orig.drop (s.absPos + s.pos)).take (s.fill.cap - s.fill.pos)
      ∧ s.cap - s.pos ≤ s.fill.cap - s.fill.pos := by
  obtain ⟨_, f⟩ := fill_grows orig s hi
  exact ⟨by rw [window_eq orig s.fill f.inv, f.pos], f.win ▸ Nat.le_add_right _ _⟩

/-- `read` hands out the source's bytes at the logical position, once and in order -/
theorem C04_read_in_order (orig : List Nat) (s : LM) (k : Nat) (hi : Inv orig s) :
    (s.read k).1 = (orig.drop (s.absPos + s.pos)).take (s.read k).1.length
      ∧ (s.read k).2.absPos + (s.read k).2.pos = s.absPos + s.pos + (s.read k).1.length := by
  obtain ⟨_, f⟩ := fill_grows orig s hi
  refine ⟨?_, (consume_pos orig s.fill _ f.inv (List.length_take_le' k _)).trans (congrArg (· + _) f.pos)⟩
  -- a prefix of a prefix of the source, cut at its own length
  show s.fill.window.take k = (orig.drop _).take (s.fill.window.take k).length
  rw [window_eq orig s.fill f.inv, f.pos, List.take_take, List.length_take, ← List.take_eq_take_min]

/-- an accepted seek stands at the requested absolute position, a refused one leaves the position untouched -/
theorem C04_seek_within_buffer (orig : List Nat) (s : LM) (n : Nat) (hi : Inv orig s) :
    if (s.seekStart n).1 then (s.seekStart n).2.absPos + (s.seekStart n).2.pos = n
    else (s.seekStart n).2.absPos + (s.seekStart n).2.pos = s.absPos + s.pos := by
  obtain ⟨t, ht, e | ⟨h1, _, e⟩⟩ := seekStart_cases s n
  · have hp : t.absPos + t.pos = s.absPos + s.pos := by
      rw [ht]; split
      · exact (fill_grows orig s hi).elim fun _ f => f.pos
      · rfl
    rw [e]; exact hp
  · rw [e]; exact Nat.add_sub_cancel' h1

/-- **window lemma** (why chunking cannot matter): on a window that holds the message its length field announces and the four
    look-ahead bytes of the corruption heuristic, the storage parser answers exactly as on the whole remaining input -/
theorem C04_parse_window (i : Nat) (w rest : Dp.Bytes) (h20 : 20 ≤ w.length) (hl : 16 + Dp.lenOf w + 4 ≤ w.length) :
    Dp.parseStorage i (w ++ rest) = Dp.parseStorage i w := by
  rw [Dp.parseStorage_eq, Dp.parseStorage_eq]
  exact Dp.parseFramed_window Dp.storageF i w rest (Dp.lenOf_eq w h20 ▸ hl)

/-- hence `DLT_MIN_PARSE_BUFFER_SIZE` = 16 + 65535 + look-ahead bytes - the low mark `convert` and `remote` hand to the reader
    (fix f61142c) - always suffices -/
theorem C04_min_buffer_suffices (i : Nat) (w rest : Dp.Bytes) (h : 16 + 65535 + Gen.dltParseLookAhead ≤ w.length) :
    Dp.parseStorage i (w ++ rest) = Dp.parseStorage i w := by
  rw [Dp.parseStorage_eq, Dp.parseStorage_eq]
  exact Dp.parseFramed_window_max Dp.storageF i w rest h

/-- `new` with `capacity ≥ low mark + 4096` is ready, and `fill`, `consume`, `read` and `seek` keep it so: in particular
    the end-of-data latch is only ever set when the source is exhausted -/
theorem C04_ready_invariant (orig : List Nat) (capacity lowMark : Nat) (sched : List Nat) (hc : lowMark + Gen.cacheLineSize ≤ capacity) :
    C04Ready orig (LM.new capacity lowMark orig sched) ∧
    (∀ s, C04Ready orig s → C04Ready orig s.fill) ∧ (∀ s n, C04Ready orig s → C04Ready orig (s.consume n)) ∧
    (∀ s k, C04Ready orig s → C04Ready orig (s.read k).2) ∧ (∀ s n, C04Ready orig s → C04Ready orig (s.seekStart n).2) := by
  have hfill : ∀ s, C04Ready orig s → C04Ready orig s.fill := fun s h => (ready_fill orig s h).1
  refine ⟨⟨new_inv capacity lowMark orig sched, nofun, ?_⟩, hfill, ops_ind (C04Ready orig) hfill (ready_pos orig)⟩
  show lowMark + cacheLine ≤ (List.replicate capacity 0).length
  rw [List.length_replicate]; exact hc

/-- **low-water mark**: under every read schedule `fill_buf` offers at least the low mark or all the source has left, so an
    empty window means the source is exhausted -/
theorem C04_low_mark_kept (orig : List Nat) (s : LM) (h : C04Ready orig s) :
    min s.lowMark (orig.length - (s.absPos + s.pos)) ≤ s.fill.window.length ∧
    (s.fill.window = [] → 0 < s.lowMark → s.absPos + s.pos = orig.length) := by
  obtain ⟨_, f⟩ := fill_grows orig s h.inv
  have hw := good_window orig s.fill f.inv (fill_good orig s h.inv h.eofOk h.room).1
  rw [f.pos, f.low] at hw
  refine ⟨hw, fun he hl => ?_⟩
  rw [he] at hw
  -- `min lowMark rest ≤ 0` with a positive low mark: nothing is left
  have hrest := (Nat.min_eq_zero_iff.mp (Nat.le_zero.mp hw)).resolve_left (Nat.ne_of_gt hl)
  exact Nat.le_antisymm (Nat.le_trans (Nat.add_le_add_left h.inv.posLe _) h.inv.inOrig) (Nat.sub_eq_zero_iff_le.mp hrest)

/-- likewise `read`: zero bytes for a non-empty request means the source is exhausted -/
theorem C04_read_not_early (orig : List Nat) (s : LM) (k : Nat) (h : C04Ready orig s) (hk : 0 < k) (hl : 0 < s.lowMark)
    (h0 : (s.read k).1 = []) : s.absPos + s.pos = orig.length := by
  have ht : s.fill.window.take k = [] := h0
  exact (C04_low_mark_kept orig s h).2 ((List.take_eq_nil_iff.mp ht).resolve_left (Nat.ne_of_gt hk)) hl

/-- **chunking independence**: for every source, schedule of short reads (down to one byte), low mark ≥
    `DLT_MIN_PARSE_BUFFER_SIZE`, capacity ≥ low mark + 4096 and start index, the iterator over the buffered reader yields the
    messages, byte counters and latches of the iterator over the whole byte string (same `fuel` = same number of loop passes) -/
theorem C04_chunking_independent (orig : List Nat) (capacity lowMark : Nat) (sched : List Nat) (fuel : Nat) (s : Dp.ItSt)
    (hl : 16 + 65535 + Gen.dltParseLookAhead ≤ lowMark) (hc : lowMark + Gen.cacheLineSize ≤ capacity) :
    Dp.iterLM fuel s (LM.new capacity lowMark orig sched) = Dp.iterAll fuel s (Dp.bytesOf orig) :=
  Dp.iterLM_eq orig fuel s _ _ ⟨(C04_ready_invariant orig capacity lowMark sched hc).1, hl, rfl⟩

/-- ... and from every state the reader can be in: the iterator continues with the source from the logical position on -/
theorem C04_chunking_independent_from (orig : List Nat) (r : LM) (fuel : Nat) (s : Dp.ItSt) (h : C04Ready orig r)
    (hl : 16 + 65535 + Gen.dltParseLookAhead ≤ r.lowMark) :
    Dp.iterLM fuel s r = Dp.iterAll fuel s (Dp.bytesOf (orig.drop (r.absPos + r.pos))) :=
  Dp.iterLM_eq orig fuel s r _ ⟨h, hl, rfl⟩

/-- **position independence, with one or more messages in front** (partial: with *no* message in front the statement is false
    of the code, see `C04_position_unlatched_witness`): behind complete messages, accepted where they stand, the iterator
    continues on an arbitrary suffix like one started on the suffix alone with storage framing latched, the messages renumbered;
    so the result does not depend on how many messages are in front -/
theorem C04_position_independent_partial (rs : List Dp.RawMsg) (fuel : Nat) (s : Dp.ItSt) (d : Dp.Bytes)
    (hs : s.detSerial = false) (hp : Dp.PrefixOk rs d) (hne : rs ≠ []) :
    (Dp.iterAll (fuel + rs.length) s (Dp.encAll rs ++ d)).1 =
      Dp.msgsOf s.index rs ++ (Dp.iterAll fuel { s with detStorage := true } d).1.map (Dp.Msg.shift rs.length) ∧
    (Dp.iterAll (fuel + rs.length) s (Dp.encAll rs ++ d)).2 =
      (Dp.iterAll fuel { s with detStorage := true } d).2.shift rs.length (Dp.encAll rs).length := by
  rw [Dp.iter_prefix rs fuel s d hs hp (.inl hne), Dp.iterAll_shift]
  exact ⟨rfl, rfl⟩

/-- a truncated storage message (announces 204 bytes, 24 follow) that embeds a complete message -/
def posWitness1 : Dp.Bytes :=
  [68,76,84,1, 1,0,0,0, 0,0,0,0, 84,82,85,78, 0x20,1,0,204,
   68,76,84,1, 1,0,0,0, 0,0,0,0, 69,77,66,68, 0x20,7,0,8, 1,2,3,4]

/-- a serial message (counter 10) that the corruption heuristic rejects and that embeds a storage message (5) and a serial
    message (11); two more serial messages (12, 13) follow -/
def posWitness2 : Dp.Bytes :=
  [68,76,83,1,32,10,0,35,68,76,84,1,1,0,0,0,0,0,0,0,83,84,79,82,32,5,0,6,170,187,68,76,83,1,32,11,0,5,1,0,0,0,0,
   68,76,83,1,32,12,0,6,2,2,68,76,83,1,32,13,0,7,3,3,3]

/-- **with no message in front the statement of C04 is false of the iterator**: the first suffix yields its embedded message
    read alone and nothing read with storage framing latched; the second yields only the embedded storage message read alone and
    the three serial messages read with serial framing latched. The framing is latched by the first message that *parses*; this is the
    behaviour of the unchanged code (harness area `pos` replays both witnesses), known finding `C04-position-before-latch` -/
theorem C04_position_unlatched_witness :
    ((Dp.iterAll 100 { index := 0 } posWitness1).1.length = 1 ∧
     (Dp.iterAll 100 { index := 0, detStorage := true } posWitness1).1.length = 0) ∧
    ((Dp.iterAll 200 { index := 0 } posWitness2).1.map (·.std.mcnt) = [5] ∧
     (Dp.iterAll 200 { index := 0, detSerial := true } posWitness2).1.map (·.std.mcnt) = [11, 12, 13]) := by
  decide +kernel

/-- non-vacuity: a minimal well-formed message is a complete prefix of a stream that continues with garbage -/
example : Dp.PrefixOk [{ sh := [0,0,0,0,0,0,0,0,69,67,85,49], htyp := 0x20, mcnt := 0, add := [], payload := [] }] [1, 2, 3, 4, 5] := by
  refine ⟨by decide, by decide, trivial⟩

theorem C04_consts : Gen.cacheLineSize = 4096 ∧ Gen.dltParseLookAhead = 4 := by decide

end Props
