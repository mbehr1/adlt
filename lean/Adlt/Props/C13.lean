import Adlt.Net.Live
import Adlt.Net.Loss
/-! # C13 — bounded channels and slow consumers never lose or reorder messages

Model: `Net` — deterministic stream transducers (`Stage`) connected by FIFO channels; `Step` = one atomic send / receive /
end-of-input action anywhere in the pipeline; `Steps` = any finite schedule. Capacities only restrict *when* a send is
enabled, so safety and completeness hold for every capacity. -/
namespace Props
open Net

/-- safety, all schedules, all capacities, all stage functions: what the consumer holds at any moment is a prefix
    of the sequential composition applied to the input — nothing dropped, duplicated or reordered -/
theorem C13_safety {M : Type} (input : List M) (stages : List (Stage M)) (s' : Nat) (nodes' : List (Node M)) (got' : List M)
    (hs : Steps input true 0 (initNodes stages) [] s' nodes' got') :
    Pre got' (pipe stages input) := Net.C13_safety input stages s' nodes' got' hs

/-- completeness: once every stage has finished and drained, the consumer holds exactly the sequential result,
    i.e. the same sequence as with unbounded channels -/
theorem C13_complete {M : Type} (input : List M) (stages : List (Stage M)) (s' : Nat) (nodes' : List (Node M)) (got' : List M)
    (hs : Steps input true 0 (initNodes stages) [] s' nodes' got') (ht : Terminal input.length s' nodes' got') :
    got' = pipe stages input := Net.C13_complete input stages s' nodes' got' hs ht

/-- no deadlock: with capacities ≥ 1, under every schedule that respects them, the pipeline is never stuck — another action
    is enabled or the consumer holds exactly the sequential result (a rendezvous channel blocks like a full one-place
    channel; it is covered by the real-thread runs) -/
theorem C13_no_deadlock {M : Type} (input : List M) (stages : List (Stage M)) (caps : List Nat)
    (hl : caps.length = stages.length + 1) (hc : ∀ c ∈ caps, 1 ≤ c)
    (s' : Nat) (nodes' : List (Node M)) (got' : List M)
    (hs : StepsC caps input true 0 (initNodes stages) [] s' nodes' got') :
    (∃ s'' nodes'' got'', StepC caps input true s' nodes' got' s'' nodes'' got'') ∨ got' = pipe stages input :=
  Net.C13_no_deadlock input stages caps hl hc s' nodes' got' hs

/-- termination (consumer present): a schedule is no longer than the initial amount of work, which depends only on the
    input and the stage functions — not on capacities, pacing or scheduling -/
theorem C13_terminates {M : Type} (input : List M) (stages : List (Stage M)) (k : Nat) (s' : Nat) (nodes' : List (Node M)) (got' : List M)
    (hs : StepsN k input true 0 (initNodes stages) [] s' nodes' got') :
    k ≤ work input 0 (initNodes stages) [] := Net.C13_terminates input stages k s' nodes' got' hs

/-- consumer loss, no blocking (`StepL`: the consumer may leave at any moment, a sender whose receiver is gone is stopped by
    its next send): in every reachable state an action is enabled, or every stage thread has terminated - ended with
    everything sent, or stopped by the failed send - and the source has stopped or sent everything -/
theorem C13_loss_never_blocks {M : Type} (input : List M) (stages : List (Stage M)) (caps : List Nat)
    (hl : caps.length = stages.length + 1) (hc : ∀ c ∈ caps, 1 ≤ c)
    (k s' : Nat) (ug' : Bool) (nodes' : List (Node M × Bool)) (got' : List M) (cg' : Bool)
    (hs : StepsL k caps input true 0 false (initL stages) [] false s' ug' nodes' got' cg') :
    (∃ s'' ug'' nodes'' got'' cg'', StepL caps input true s' ug' nodes' got' cg' s'' ug'' nodes'' got'' cg'') ∨
    (AllDone nodes' ∧ (ug' = true ∨ s' = input.length)) :=
  Net.C13_loss_never_blocks input stages caps hl hc k s' ug' nodes' got' cg' hs

/-- consumer loss, termination: every schedule of that network is finite, bounded by the initial work plus the number of
    elements that can leave -/
theorem C13_loss_terminates {M : Type} (input : List M) (stages : List (Stage M)) (caps : List Nat)
    (k s' : Nat) (ug' : Bool) (nodes' : List (Node M × Bool)) (got' : List M) (cg' : Bool)
    (hs : StepsL k caps input true 0 false (initL stages) [] false s' ug' nodes' got' cg') :
    k ≤ work input 0 (initNodes stages) [] + (stages.length + 2) :=
  Net.C13_loss_terminates input stages caps k s' ug' nodes' got' cg' hs

/-- non-vacuity: the consumer leaves at once, the source pushes one item into the (still living) stage -/
example : ∃ s' ug' nodes' got' cg', StepsL 2 [1, 1] [1, 2] true 0 false
    (initL [({ inc := fun _ x => [x], flush := fun _ => [] } : Stage Nat)]) [] false s' ug' nodes' got' cg' :=
  ⟨_, _, _, _, _,
    -- step 1, one level below the stage (`deeper`): the consumer leaves
    .cons (.deeper 1 [1] [1, 2] true 0 false _ false [] [] false _ _ _ _ _ (.consLeave [1] _ _ _ false []))
    -- step 2, at the source: there is an item (`decide`), the stage is not gone (`rfl`), its channel has room (`decide`)
    (.cons (.push 1 [1] [1, 2] true 0 _ [] true (by decide) rfl (by decide)) (.refl _ _ _ _ _ _ _ _))⟩

/-- non-vacuity: the identity stage on two inputs behind channels of capacity 1: the initial state has an enabled action -/
example : ∃ s' nodes' got', StepC [1, 1] [1, 2] true 0 (initNodes [({ inc := fun _ x => [x], flush := fun _ => [] } : Stage Nat)]) [] s' nodes' got' :=
  ⟨_, _, _, .push 1 [1] [1, 2] true 0 _ [] (by decide) (by decide)⟩

/-- non-vacuity: a doubling stage followed by a stage that holds back one element; a schedule that pushes two inputs -/
example : pipe [({ inc := fun _ x => [x, x], flush := fun _ => [] } : Stage Nat),
                ({ inc := fun h x => match h.getLast? with | some y => [y] | none => [] , flush := fun h => h.getLast?.toList } : Stage Nat)]
               [1, 2] = [1, 1, 2, 2] := by decide

end Props
