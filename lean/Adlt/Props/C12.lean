import Adlt.Filter.Proofs
/-! # C12 — filter sets: positive OR, negative veto, event AND; order and counts kept

Model: `Flt.filterAsStreams` (= `filter_as_streams`, used by convert) and `Flt.matchFilters` over `Flt.keepEnabled`
(= `match_filters` over the container built by `StreamContext::from` / search / export). `mt` is any single-filter
decision function (the theorems hold for every one, in particular for `Filter::matches`). -/
namespace Props
open Flt

/-- stream filter: the output is exactly the messages `Spec.keepStream` keeps, unchanged and in their original order
    (disabled, marker and event filters have no effect); passed + filtered = received -/
theorem C12_stream (mt : Filter → MsgView → Bool) (fs : List Filter) (ms : List MsgView) :
    (filterAsStreams mt fs ms).1 = ms.filter (Spec.keepStream mt fs) ∧
    (filterAsStreams mt fs ms).2.1 + (filterAsStreams mt fs ms).2.2 = ms.length :=
  ⟨congrArg (ms.filter ·) (funext fun _ => veto_eq _ _ _), Nat.add_sub_of_le (List.length_filter_le _ ms)⟩

/-- set matcher (remote streams, searches, export): it decides `Spec.keepSet`, over the enabled filters only -/
theorem C12_set (mt : Filter → MsgView → Bool) (fs : List Filter) (m : MsgView) :
    matchFilters mt (keepEnabled fs) m = Spec.keepSet mt fs m := by
  unfold matchFilters Spec.keepSet
  simp only [filter_filter_enabled]
  exact ite_and _ _ _

/-- without (enabled) event filters both implementations select the same messages -/
theorem C12_agree (mt : Filter → MsgView → Bool) (fs : List Filter) (m : MsgView)
    (hev : (fs.filter fun f => f.enabled && f.kind == Kind.event) = []) :
    Spec.keepSet mt fs m = Spec.keepStream mt fs m := by
  unfold Spec.keepSet Spec.keepStream
  simp [hev]

/-- non-vacuity: a disabled positive filter does not turn "no positive filter" into "must match" -/
example : Spec.keepStream (fun _ _ => false) [{ kind := .positive, enabled := false }]
    { ecu := [], ext := none, lifecycle := 0, text := "" } = true := by decide

end Props
