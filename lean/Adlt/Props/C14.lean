import Adlt.Convert.Proofs
import Adlt.Convert.Order
import Adlt.Convert.FileOrder
/-! # C14 — convert selects exactly what its options say

Model: `Cvt.convert` = input ordering (`Cvt.inputSeq`) followed by the pipeline lifecycle detection (`Lcm.run`) ->
[time sort] -> [filter stage, `filter_as_streams` over `Filter::matches`] -> output stage (lifecycle-id set, index window).
`re` = the regular-expression engines (opaque), `sorter` = the time-sort stage (any permutation, see C10). -/
namespace Props
open Cvt Flt

/-- the messages enter the selection numbered 0, 1, 2, … in processing order, every input message exactly once, unchanged -/
theorem C14_input_numbered (files : List File) :
    (stageLc (inputSeq files)).map (·.m) = inputSeq files ∧
    (stageLc (inputSeq files)).map (·.index) = List.range (inputSeq files).length := stageLc_spec _

/-- without `--sort`: exactly the messages of the numbered, lifecycle-assigned input that satisfy **all** given selections
    (filter set, lifecycle ids, index window), in input order, each once; whatever the sorter would do -/
theorem C14_select (re : Re) (o : Opts) (files : List File) (sorter : List PMsg → List PMsg) (hs : o.sort = false) :
    convert sorter (matchesImpl re) o files = (stageLc (inputSeq files)).filter (Spec.selected re o) := by
  rw [convert, pipeline_eq, hs]; rfl

/-- with `--sort`: the same messages, as a permutation (the order is C10's matter), for every sorter that permutes -/
theorem C14_select_sorted (re : Re) (o : Opts) (files : List File) (sorter : List PMsg → List PMsg)
    (hperm : ∀ l, (sorter l).Perm l) :
    (convert sorter (matchesImpl re) o files).Perm ((stageLc (inputSeq files)).filter (Spec.selected re o)) := by
  rw [convert, pipeline_eq]
  split
  · exact (hperm _).filter _
  · exact List.Perm.refl _

/-- no message is emitted twice (indices are those of the unfiltered input) -/
theorem C14_each_once (re : Re) (o : Opts) (files : List File) (sorter : List PMsg → List PMsg)
    (hperm : ∀ l, (sorter l).Perm l) :
    ((convert sorter (matchesImpl re) o files).map (·.index)).Nodup := by
  have hp := (C14_select_sorted re o files sorter hperm).map (·.index)
  refine hp.nodup_iff.mpr ?_
  have hsub : (((stageLc (inputSeq files)).filter (Spec.selected re o)).map (·.index)).Sublist
      ((stageLc (inputSeq files)).map (·.index)) := (List.filter_sublist).map _
  rw [(C14_input_numbered files).2] at hsub
  exact hsub.nodup List.nodup_range

/-- within one ECU set the files are read in the order of their first reception times, however they were named, when
    those times differ -/
theorem C14_files_of_a_group_order_free (l l' : List File) (hp : l.Perm l')
    (hd : ∀ a ∈ l, ∀ b ∈ l, a.firstRecv = b.firstRecv → a = b) : sortByTime l = sortByTime l' :=
  sortByTime_perm_invariant l l' hp hd

/-- the streams of the ECU sets are merged with the same ranks (hence the same result, `merge` being a function of the ranked
    list) however they were passed, when their first reception times differ -/
theorem C14_streams_order_free (ss ss' : List (List FMsg)) (hp : ss.Perm ss')
    (hd : ∀ a ∈ ss, ∀ b ∈ ss, headRecv a = headRecv b → a = b) : merge (rankStreams ss) = merge (rankStreams ss') := by
  rw [rankStreams_perm_invariant ss ss' hp hd]

/-- **file order**: naming the input files in a different order gives the same result, for every option set, sorter and filter
    matcher, when the first reception times of the (non-empty) files are distinct; later messages may well tie -/
theorem C14_file_order (sorter : List PMsg → List PMsg) (mt : Flt.Filter → Flt.MsgView → Bool) (o : Opts) (files files' : List File)
    (hp : files.Perm files')
    (hdist : ∀ a ∈ files, ∀ b ∈ files, a.msgs ≠ [] → b.msgs ≠ [] → a.firstRecv = b.firstRecv → a = b) :
    convert sorter mt o files' = convert sorter mt o files := by
  unfold convert
  rw [inputSeq_perm files files' hp hdist]

/-- non-vacuity: a two-message input, window [1,1] -/
example : (convert id (fun _ _ => true) { first := 1, last := some 1 }
    [{ id := 0, msgs := [{ ecu := 0, recv := 1000, ts := 0, apid := [], ctid := [], lvl := 4, text := "a", mcnt := 0 },
                         { ecu := 0, recv := 2000, ts := 10, apid := [], ctid := [], lvl := 4, text := "b", mcnt := 1 }] }]).map (·.index) = [1] := by
  decide

end Props
