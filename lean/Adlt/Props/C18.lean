import Adlt.Args.Trunc
import Adlt.Args.Corrupt
import Adlt.Args.TextProofs
/-! # C18 — verbose payloads: encode/decode agreement and canonical text

Model: `Arg.argIter` (= `DltMessageArgIterator`), `Arg.encode` (= `payload_from_args` and the serde serializer, which
produce the same bytes), `Arg.render` (= `process_msg_arg_iter`). `Val.wf`: widths match the type, floats are 32/64 bit,
strings / raw data fit the 16-bit length. -/
namespace Props
open Arg

/-- decoding what was encoded yields the same arguments (type info and raw bytes), in both byte orders -/
theorem C18_roundtrip (be : Bool) (vs : List Val) (hw : ∀ v ∈ vs, v.wf = true) :
    argIter be (encode be vs) = vs.map Val.decoded := by
  have h := iterFuel_encode_append be vs hw [] ((encode be vs).length + 1) (by rw [List.append_nil]; exact Nat.lt_succ_self _)
  rwa [List.append_nil, iterFuel_nil, List.append_nil] at h

/-- every truncation of the payload decodes to a prefix of the original arguments -/
theorem C18_prefix (be : Bool) (vs : List Val) (hw : ∀ v ∈ vs, v.wf = true) (k : Nat) :
    ∃ n, argIter be ((encode be vs).take k) = (vs.map Val.decoded).take n :=
  C18_roundtrip be vs hw ▸ argIter_take be (encode be vs) k

/-- the text of the decoded arguments is the space-separated canonical form of the values (`Arg.canonVal`), for every
    float formatter and every lossy decoder of non-ASCII bytes -/
theorem C18_text (op : Opaque) (be : Bool) (vs : List Val) (hw : ∀ v ∈ vs, v.wf = true) :
    render op be (argIter be (encode be vs)) = canon op be vs := by
  rw [C18_roundtrip be vs hw]; exact render_decoded op be vs hw

/-- malformed lists, for **every** byte string: each argument the decoder yields has a supported type info - no
    variable-info, fixed-point, array, trace-info or structure modifier (they change the layout of the argument) and no
    reserved length code; the decoder stops in front of such an argument -/
theorem C18_decoded_supported (be : Bool) (p : Bytes) : ∀ a ∈ argIter be p, unsupportedTi a.ti = false :=
  iterFuel_supported be _ p

/-- a corrupted field: the decoded list starts with the original arguments that lie in front of the corruption, whatever
    follows them -/
theorem C18_corruption_keeps_prefix (be : Bool) (vs : List Val) (hw : ∀ v ∈ vs, v.wf = true) (q : Bytes) :
    (argIter be (encode be vs ++ q)).take vs.length = vs.map Val.decoded := by
  unfold argIter
  rw [iterFuel_encode_append be vs hw q _ (Nat.lt_succ_self _), List.take_left' (List.length_map _)]

/-- the type-info constants of the model (Gen/Consts.lean, generated from the Rust sources) have these values -/
theorem C18_consts : Gen.tiBool = 0x10 ∧ Gen.tiSint = 0x20 ∧ Gen.tiUint = 0x40 ∧ Gen.tiFloa = 0x80 ∧ Gen.tiStrg = 0x200 ∧
    Gen.tiRawd = 0x400 ∧ Gen.tiVari = 0x800 ∧ Gen.tiFixp = 0x1000 ∧ Gen.scodUtf8 = 0x8000 ∧ Gen.tiAray = 0x100 ∧ Gen.tiTrai = 0x2000 ∧
    Gen.tiStru = 0x4000 ∧ Gen.tiMaskTyle = 0xf := by decide

/-- non-vacuity: an empty raw argument followed by a u8 (the case of fix 5c3d28a: the length field of an empty argument) -/
example : argIter false (encode false [.raw [], .uint 1 [7]]) = [⟨0x400, []⟩, ⟨0x41, [7]⟩] := by decide

/-- non-vacuity: `[u8 7, u8 9]` with the array bit set in the first type info, and `[bool true, u8 9]` with a reserved
    length code, end the list instead of yielding an argument of another type (the cases of fixes f4af6ba, 87deff1) -/
example : argIter false [0x41, 0x01, 0, 0, 7, 0x41, 0, 0, 0, 9] = [] ∧
          argIter false [0x17, 0, 0, 0, 1, 0x41, 0, 0, 0, 9] = [] ∧
          argIter false [0x10, 0, 0, 0, 1, 0x41, 0, 0, 0, 9] = [⟨0x10, [1]⟩, ⟨0x41, [9]⟩] := by decide

end Props
