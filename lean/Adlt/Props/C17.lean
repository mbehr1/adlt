import Adlt.Ft.AutoSave
import Adlt.Ft.Sound
import Adlt.Ft.Complete
/-! # C17 — embedded file transfers are reassembled bit-exactly or not at all

Model: `Ftm.Plug.run` (= `FileTransferPlugin::process_msg` over the FLST / FLDA / FLFI messages of a stream). -/
namespace Props
open Ftm

/-- soundness, for every event sequence (any interleaving of transfers, any faults): a transfer reported complete has
    accepted exactly the packages 1, 2, …, k in this order and counted no other in between, its data is the concatenation
    of their payloads, and if it was announced, k is the announced number and the recorded size the bytes stored. So a
    missing, swapped or resized package never leads to `complete`. -/
theorem C17_complete_sound (keep : Bool) (evs : List Ev) (t : Ft) (ht : t ∈ (Plug.run keep evs).transfers)
    (hc : t.state = .complete) :
    t.accepted.map (·.1) = List.range' 1 (t.nextPackage - 1) ∧
    t.recvdPackages = t.nextPackage - 1 ∧
    (t.keep = true → t.data = (t.accepted.map (·.2)).flatten) ∧
    (∀ n, t.nrPackages = some n → t.nextPackage = n + 1 ∧ t.fileSize = ((t.accepted.map (·.2)).flatten).length) := by
  have h := run_inv keep evs t ht
  refine ⟨h.nums, (h.done hc).1, h.data, ?_⟩
  intro n hn
  obtain ⟨h1, h2⟩ := (h.done hc).2 n hn
  exact ⟨h1, by rw [h2, h.payl]⟩

/-- completeness: an announced transfer (`n` packages of `buf` bytes, the last one possibly shorter or empty, announced with
    its true size) whose packages arrive in order — already accepted numbers may be repeated any number of
    times with any content — is reported complete and its stored data equals the original, byte for byte -/
theorem C17_inorder_complete (serial size n buf : Nat) (keep : Bool) (pk : List (List Nat)) (evs : List (Nat × List Nat))
    (hn : pk.length = n) (hn0 : 0 < n) (hb : 0 < buf) (hs : SizesOk buf pk)
    (hsize : size = pk.flatten.length) (ho : InOrder 1 pk evs) :
    let t0 : Ft := { serial, state := .started, fileSize := size, nrPackages := some n, bufferSize := buf, keep := keep }
    (feed t0 evs).state = .complete ∧ ((feed t0 evs).keep = true → (feed t0 evs).data = pk.flatten) := by
  intro t0
  exact feed_inorder (n := n) (buf := buf) ho t0
    { hbuf := rfl, hbufpos := hb, hnr := rfl, hnext := rfl, hk := Nat.le_refl 1, hcover := by rw [hn, Nat.add_comm],
      hsizes := hs, hdata := fun _ => List.nil_append _,
      running := fun _ => ⟨rfl, rfl, hsize.trans (Nat.zero_add _).symm⟩,
      finished := fun h => by subst h; exact absurd hn.symm (Nat.ne_of_gt hn0) }

/-- confinement: an auto-saved transfer is written to `<dir>/<b>`, `b` the base name of the announced name: no separator,
    not empty, `.` or `..`, so a direct child of the configured directory whatever was announced (a name without base name
    is replaced by a fixed text) -/
theorem C17_save_confined (n b : Ftm.Name) (h : Ftm.baseName n = some b) :
    '/' ∉ b ∧ b ≠ [] ∧ b ≠ ['.'] ∧ b ≠ ['.', '.'] := by
  unfold baseName at h
  split at h
  · nomatch h
  · rename_i p rest heq
    split at h
    · nomatch h
    · rename_i hpar
      cases h
      -- `b` heads the reversed list of the parts that count: it is one of them
      have hmem := List.mem_filter.mp (List.mem_reverse.mp (heq ▸ List.mem_cons_self))
      simp only [Bool.not_eq_true', isSkipped, Bool.or_eq_false_iff, beq_eq_false_iff_ne, ne_eq] at hmem
      exact ⟨splitSlash_no_sep n b hmem.1, hmem.2.1, hmem.2.2, fun e => hpar (beq_iff_eq.mpr e)⟩

/-- no overwrite: automatic saving never changes or removes a file that exists already; it only ever adds one new file -/
theorem C17_save_never_overwrites (globOk : Ftm.Name → Bool) (s : Ftm.Saved) (serial : Nat) (name : Ftm.Name) (data : List Nat) :
    ∃ added, (Ftm.autoSave globOk s serial name data).files = s.files ++ added ∧
      (∀ f ∈ added, s.has f.1 = false) ∧ added.length ≤ 1 := by
  unfold Ftm.autoSave
  cases globOk name
  · exact ⟨[], by simp, by simp, by simp⟩
  · rw [if_pos rfl]
    dsimp only
    split
    · exact ⟨[], by simp, by simp, by simp⟩
    · rename_i hh
      exact ⟨[(Ftm.targetName serial name, data)], rfl, List.forall_mem_singleton.mpr (Bool.eq_false_iff.mpr hh), Nat.le_refl 1⟩

/-- non-vacuity: `/abs/../x/f.bin` is saved as `f.bin`; a name ending in `..` has no base name -/
example : Ftm.baseName "/abs/../x/f.bin".toList = some "f.bin".toList ∧ Ftm.baseName "dir/..".toList = none := by
  -- a literal is `String.ofList` of its characters: read off, the kernel need not decode the literals' UTF-8
  rw [(String.toList_ofList : "/abs/../x/f.bin".toList = _), (String.toList_ofList : "f.bin".toList = _),
    (String.toList_ofList : "dir/..".toList = _)]
  decide

/-- non-vacuity: packages 1,1,2 of 2 (a repeated package, the input of the defect recorded in DESIGN.md: it must not make the transfer incomplete) -/
example : InOrder 1 [[7, 7], [8]] [(1, [7, 7]), (1, [7, 7]), (2, [8])] :=
  .next 1 [7, 7] [[8]] _ (.dup 2 [[8]] _ 1 [7, 7] (by decide) (.next 2 [8] [] _ (.done 3)))

example : ((Plug.run true [.flst 5 3 2 2, .flda 5 1 [7, 7], .flda 5 1 [7, 7], .flda 5 2 [8], .flfi 5]).transfers.map
    fun t => (t.state, t.data)) = [(.complete, [7, 7, 8])] := by decide

end Props
