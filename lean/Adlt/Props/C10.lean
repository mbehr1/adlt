import Adlt.Sort.Seq
/-! # C10 — time sorting is a permutation, and ordered under bounded delay

Model: `Srt.runSortSeq table windowSecs minDelay ms` (= `buffer_sort_messages` with a static lifecycle table): the messages
are numbered as they arrive (`seq`), ties of the calculated time are broken by that number; the messages' own `index` is
carried and not looked at. -/
namespace Props
open Srt

/-- for every stream, table, window size and minimum delay the output is a permutation of the input -/
theorem C10_perm (table : List (Nat × Nat)) (windowSecs minDelay : Nat) (ms : List SMsg) :
    ((runSortSeq table windowSecs minDelay ms).map SMsg.clearSeq).Perm (ms.map SMsg.clearSeq) := by
  rw [← number_clear 0 ms]
  exact (runSort_perm table windowSecs minDelay (number 0 ms)).map _

/-- if reception times never decrease and no message's calculated time lies more than `minDelay` before its reception time,
    the output is ordered by calculated time, ties in arrival order (`seq`) - for every window size (the proof uses only
    `threshold ≥ minDelay`), every table, and whatever the messages' own indices are (equal, decreasing, wrapped) -/
theorem C10_sorted (table : List (Nat × Nat)) (windowSecs minDelay : Nat) (ms : List SMsg)
    (h : Spec.premise table minDelay ms = true) :
    Spec.sortedByCalc table (runSortSeq table windowSecs minDelay ms) = true := by
  simp only [Spec.premise, Bool.and_eq_true] at h
  exact runSort_sorted table windowSecs minDelay _ ((number_recvMonotone 0 ms).trans h.1)
    ((number_delayBounded table minDelay 0 ms).trans h.2)

/-- the buffering threshold never drops below the configured minimum, whatever the window estimate does -/
theorem C10_threshold_ge_min (windowSecs minDelay : Nat) (s : SSt) (m : SMsg) (ct : Nat) (h : minDelay ≤ s.T) :
    minDelay ≤ (s.newT windowSecs minDelay m ct).2 := newT_ge windowSecs minDelay s m ct h

/-- non-vacuity: two ECUs in parallel, second message 1.5 s late but within a 2 s bound -/
example : Spec.premise [(1, 1000000000), (2, 1000500000)] 2000000
    [ { index := 7, recv := 1010000000, ecu := 0, lc := 1, tsUs := 9900000, ctrlReq := false },
      { index := 7, recv := 1010200000, ecu := 1, lc := 2, tsUs := 8200000, ctrlReq := false } ] = true := by decide

end Props
