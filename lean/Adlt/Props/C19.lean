import Adlt.Plugins.Anon
import Adlt.Plugins.AnonStream
import Adlt.Lc.Rename
import Adlt.Plugins.Stage
/-! # C19 — plugins keep the stream intact; anonymisation keeps its structure   (partial)

Decoding plugins (non-verbose, SOME/IP, CAN, Muniic, rewrite) are opaque decoders; what is checked of them on every run
is the executable statement in `Plg.doLine` (same count, same order, index / reception time / ECU / payload bytes /
lifecycle untouched, timestamp only by rewrite, an existing extended header untouched) on the real plugins configured
from the repository's FIBEX / JSON files. Proved here: the pseudonym tables of the anonymiser (model of
`AnonymizePlugin::process_msg`), one table and the whole stream; the plugin stage with decoders only; lifecycle detection
commutes with every injective renaming of the ECU ids. -/
namespace Props
open Anon

/-- within one pseudonym table (ids in order of first appearance): distinct ids get distinct numbers -/
theorem C19_anon_table_injective (keys : List Id) (hnd : keys.Nodup) (a b : Id) (n : Nat)
    (ha : rankOf keys a = some n) (hb : rankOf keys b = some n) : a = b := rank_injective keys a b n ha hb

/-- distinct numbers up to the pseudonym capacity (999) are rendered as distinct pseudonym texts -/
theorem C19_anon_format_injective (a b : Nat) (ha : a < 1000) (hb : b < 1000) (h : fmt 'E' a = fmt 'E' b) : a = b :=
  fmt_injective 'E' a b ha hb h

/-- the capacity bound is sharp: the 1000th id collides with the 100th -/
theorem C19_anon_capacity_sharp : fmt 'E' 1000 = fmt 'E' 100 := by decide

/-- the plugin stage with decoders only (`Plg.Conservative`: never veto, keep the fields of `Plg.Keeps`, whatever else they
    do and whatever state they keep) forwards exactly one message per input message, in order, with those fields untouched -/
theorem C19_decoders_conservative (ps : List Plg.Plugin) (hc : ∀ p ∈ ps, Plg.Conservative p) (ms : List Plg.PMsg) :
    (Plg.pluginsProcess ps ms).length = ms.length ∧
    ∀ k (h1 : k < (Plg.pluginsProcess ps ms).length) (h2 : k < ms.length), Plg.Keeps (Plg.pluginsProcess ps ms)[k] ms[k] := by
  unfold Plg.pluginsProcess
  apply Plg.stage_conservative
  rw [List.map_map]
  exact fun p hp => hc p (by simpa using hp)

/-- if additionally every plugin keeps the timestamp (all decoders but rewrite), one message through the plugins keeps it -/
theorem C19_decoders_keep_timestamp (ps : List Plg.Inst) (hc : ∀ i ∈ ps, Plg.Conservative i.1) (ht : ∀ i ∈ ps, Plg.KeepsTs i.1)
    (m : Plg.PMsg) : (Plg.through ps m).2.1.ts = m.ts :=
  (Plg.through_rel (fun a b => a.ts = b.ts) (fun _ => rfl) (fun _ _ _ => Eq.trans) ps
    (fun i hi h m => ⟨(hc i hi h m).1, ht i hi h m⟩) m).2

/-- **over a whole stream**, ECU ids: two messages get the same ECU number iff they carry the same ECU id -/
theorem C19_anon_stream_ecu (ms : List Anon.In) (p q : Anon.In × Anon.Out) (hp : p ∈ ms.zip (run {} ms)) (hq : q ∈ ms.zip (run {} ms)) :
    p.2.1 = q.2.1 ↔ p.1.1 = q.1.1 := rank_eq_iff _ _ _ _ _ (run_agrees ms p hp).1 (run_agrees ms q hq).1

/-- **over a whole stream**, APIDs of one ECU: the same APID number iff the same APID (the second conjunct holds trivially
    under `hp1`, `hp2`) -/
theorem C19_anon_stream_apid (ms : List Anon.In) (p q : Anon.In × Anon.Out) (hp : p ∈ ms.zip (run {} ms)) (hq : q ∈ ms.zip (run {} ms))
    (hecu : p.2.1 = q.2.1) (a1 c1 a2 c2 : Id) (an1 cn1 an2 cn2 : Nat)
    (hp1 : p.1.2 = some (a1, c1)) (hp2 : p.2.2 = some (an1, cn1)) (hq1 : q.1.2 = some (a2, c2)) (hq2 : q.2.2 = some (an2, cn2)) :
    (an1 = an2 ↔ a1 = a2) ∧ p.2.2.isSome = p.1.2.isSome := by
  have h := (run_agrees ms p hp).2 _ _ hp1 hp2
  rw [hecu] at h
  exact ⟨h.apid_iff (final_wf ms _) ((run_agrees ms q hq).2 _ _ hq1 hq2), by rw [hp1, hp2]; rfl⟩

/-- **over a whole stream**, CTIDs of one (ECU, APID): the same CTID number iff the same CTID -/
theorem C19_anon_stream_ctid (ms : List Anon.In) (p q : Anon.In × Anon.Out) (hp : p ∈ ms.zip (run {} ms)) (hq : q ∈ ms.zip (run {} ms))
    (hecu : p.2.1 = q.2.1) (a c1 c2 : Id) (an1 cn1 an2 cn2 : Nat)
    (hp1 : p.1.2 = some (a, c1)) (hp2 : p.2.2 = some (an1, cn1)) (hq1 : q.1.2 = some (a, c2)) (hq2 : q.2.2 = some (an2, cn2)) :
    cn1 = cn2 ↔ c1 = c2 := by
  have h := (run_agrees ms p hp).2 _ _ hp1 hp2
  rw [hecu] at h
  exact h.ctid_iff ((run_agrees ms q hq).2 _ _ hq1 hq2) rfl

/-- the ECU number lies within the size of the final ECU table: as long as that holds at most 999 ids, the number is one that
    `C19_anon_format_injective` renders as a distinct pseudonym text -/
theorem C19_anon_stream_bound (ms : List Anon.In) (p : Anon.In × Anon.Out) (hp : p ∈ ms.zip (run {} ms)) :
    1 ≤ p.2.1 ∧ p.2.1 ≤ (final {} ms).ecus.length := rank_bounds _ _ _ (run_agrees ms p hp).1

/-- **the lifecycle detector commutes with every injective renaming of the ECU ids** -/
theorem C19_detector_commutes_with_renaming (f : Nat → Nat) (hf : ∀ a b, f a = f b → a = b) (ms : List Lcm.Msg) :
    Lcm.run (ms.map (Lcm.Msg.rn f)) = (Lcm.run ms).rn f := Lcm.run_rn hf ms

/-- **lifecycles on an anonymised trace**: a renaming of the ECU ids that is injective on the ids of the stream (the
    anonymiser's is: `C19_anon_stream_ecu`) changes nothing of what the detector reports but the ECU names: same lifecycle
    ids on the delivered messages, same ids, message counts, starts and ends in the final table -/
theorem C19_lifecycles_of_renamed_trace (ms : List Lcm.Msg) (g : Nat → Nat)
    (hg : ∀ a ∈ ms.map (·.ecu), ∀ b ∈ ms.map (·.ecu), g a = g b → a = b) :
    ∃ f : Nat → Nat, (∀ a b, f a = f b → a = b) ∧ (∀ m ∈ ms, f m.ecu = g m.ecu) ∧
      Lcm.observe (Lcm.run (ms.map (Lcm.Msg.rn g))) =
        { out := (Lcm.observe (Lcm.run ms)).out.map (Lcm.OutObs.rn f), tbl := (Lcm.observe (Lcm.run ms)).tbl.map (Lcm.TblObs.rn f) } := by
  obtain ⟨f, hf, hfg⟩ := Lcm.extend_injection (ms.map (·.ecu)) g hg
  have hm : ∀ m ∈ ms, f m.ecu = g m.ecu := fun m hm => hfg m.ecu (List.mem_map.mpr ⟨m, hm, rfl⟩)
  have e : ms.map (Lcm.Msg.rn g) = ms.map (Lcm.Msg.rn f) :=
    List.map_congr_left fun m hmm => congrArg (fun e => ({ m with ecu := e } : Lcm.Msg)) (hm m hmm).symm
  exact ⟨f, hf, hm, by rw [e, Lcm.run_rn hf, Lcm.observe_rn]⟩

/-- non-vacuity: swapping the two ECU ids of a three-message stream (three lifecycles) -/
example :
    let ms : List Lcm.Msg := [
      { index := 0, recv := 1000000, ecu := 1, tsDms := 10, hasTs := true, ctrlReq := false, lc := 0 },
      { index := 1, recv := 1100000, ecu := 2, tsDms := 20, hasTs := true, ctrlReq := false, lc := 0 },
      { index := 2, recv := 90000000, ecu := 1, tsDms := 30, hasTs := true, ctrlReq := false, lc := 0 }]
    (Lcm.observe (Lcm.run (ms.map (Lcm.Msg.rn (fun e => 3 - e))))).tbl = (Lcm.observe (Lcm.run ms)).tbl.map (Lcm.TblObs.rn (fun e => 3 - e)) ∧
    (Lcm.observe (Lcm.run ms)).tbl.map (·.ecu) = [1, 2, 1] := by decide +kernel

/-- non-vacuity: a plugin that vetoes every second message it is handed is *not* conservative, and the stage then drops -/
example : (Plg.pluginsProcess [{ proc := fun h m => (m, h.length % 2 == 0) }]
    [{ index := 0, recv := 0, ecu := [], ts := 0, lifecycle := 1, payload := [], ext := none, text := none },
     { index := 1, recv := 0, ecu := [], ts := 0, lifecycle := 1, payload := [], ext := none, text := none }]).map (·.index) = [0] := by decide

/-- non-vacuity: two ECUs, the second message without extended header -/
example : run {} [([69, 67, 85, 49], some ([65, 80, 73, 68], [67, 84, 73, 68])), ([69, 67, 85, 50], none),
                  ([69, 67, 85, 49], some ([65, 80, 73, 68], [67, 84, 50, 0]))]
    = [(1, some (1, 1)), (2, none), (1, some (1, 2))] := by decide

end Props
