import Adlt.Filter.Proofs
import Adlt.Filter.Front
import Adlt.Filter.RoundTrip
/-! # C11 — a filter matches exactly the conjunction of its criteria, via every front-end

Model: `Flt.matchesImpl` (= `Filter::matches`), `Flt.fromJson` / `Flt.fromDlf` / `Flt.toJson` (front-ends on an abstract
configuration). `re` = the regular-expression engines (opaque; every theorem holds for every `re`). -/
namespace Props
open Flt

/-- the sequential matcher decides exactly: enabled ∧ (conjunction of the specified criteria ≠ negated) -/
theorem C11_matches (re : Re) (f : Filter) (m : MsgView) : matchesImpl re f m = Spec.decides re f m :=
  matchesImpl_eq_spec re f m

/-- application-id, context-id, type and level criteria never hold for a message without extended header -/
theorem C11_noext (re : Re) (f : Filter) (m : MsgView) (hm : m.ext = none)
    (hc : f.apid.isSome ∨ f.ctid.isSome ∨ f.vmm.isSome ∨ f.lvlMin.isSome ∨ f.lvlMax.isSome) :
    Spec.conj re f m = false := by
  unfold Spec.conj
  rw [apidOk_noext re f hm, ctidOk_noext re f hm, typeOk_noext f hm, lvlMinOk_noext f hm, lvlMaxOk_noext f hm]
  rcases hc with h | h | h | h | h <;> simp only [h, Bool.not_true, Bool.and_false, Bool.false_and]

/-- the DLF and the JSON front-end build filters that decide identically from the same abstract filter, on the
    fragment a dlt-viewer filter can express (no negation, no lifecycle list, type = "control messages" only, literal
    ECU) whenever the JSON form loads at all -/
theorem C11_frontends_agree (reOk : String → Bool) (a : AFilter) (f : Filter) (hx : dlfExpressible a = true)
    (hj : fromJson reOk a = some f) :
    ∀ re m, matchesImpl re (fromDlf reOk a) m = matchesImpl re f m := by
  intro re m
  rw [fromJson_dlfExpressible reOk a f hx hj]
  exact (matchesImpl_unread re _ _ _ m).symm

/-- non-vacuity: a dlt-viewer expressible filter that loads from JSON -/
example : dlfExpressible { apid := some "APID", apidRe := some false, payload := some "Hello" } = true ∧
    (fromJson (fun _ => true) { apid := some "APID", apidRe := some false, payload := some "Hello" }).isSome = true := by decide

/-- the dlt-convert APID/CTID list front-end builds, from an entry it can express (positive, two literal ids of at most four
    ASCII bytes, nothing else), a filter that decides like the one the JSON front-end builds from the same abstract filter -/
theorem C11_list_agrees (reOk : String → Bool) (a : AFilter) (f : Filter) (hx : listExpressible a = true)
    (hj : fromJson reOk a = some f) : ∀ re m, matchesImpl re (fromList a) m = matchesImpl re f m := by
  obtain ⟨hd, he⟩ := fromDlf_list reOk a hx
  rw [← he]
  exact C11_frontends_agree reOk a f hd hj

/-- non-vacuity: an entry of the list format -/
example : listExpressible { apid := some "AP1", apidRe := some false, ctid := some "MAIN", ctidRe := some false } = true := by decide

/-- **JSON round trip**: a filter the JSON front-end produced, serialised with `to_json` and loaded again, is the same filter,
    provided its literal ids are printable ASCII (what `Display for DltChar4` shows faithfully) -/
theorem C11_json_roundtrip (reOk : String → Bool) (a : AFilter) (f : Filter) (h : fromJson reOk a = some f)
    (hs : Showable f.ecu ∧ Showable f.apid ∧ Showable f.ctid) :
    fromJson reOk (toJson f) = some f ∧
    ∀ g, fromJson reOk (toJson f) = some g → ∀ re m, matchesImpl re g m = matchesImpl re f m := by
  have hfix := json_fixpoint reOk a f h hs
  refine ⟨hfix, fun g hg re m => ?_⟩
  rw [hfix] at hg
  cases hg; rfl

/-- the side condition is needed: an id with a control character is shown as `-` and comes back as another id -/
example : char4 (showId [0x41, 0x01, 0x42, 0x43]) ≠ some [0x41, 0x01, 0x42, 0x43] := by decide

/-- non-vacuity: a filter with literal and regular-expression ids, a case-insensitive payload regex, a type and level bounds -/
def exA : AFilter :=
  { ecu := some "ECU1", apid := some "AP.*", apidRe := some true, payloadRegex := some "err", ignoreCase := true,
    mstp := some 0, lvlMax := some 4 }

example : (fromJson (fun _ => true) exA).isSome = true ∧ Showable (some (IdCrit.lit [0x45, 0x43, 0x55, 0x31])) := by
  refine ⟨by decide, [0x45, 0x43, 0x55, 0x31], 0, rfl, rfl, by decide⟩

end Props
