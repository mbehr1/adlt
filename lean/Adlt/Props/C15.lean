import Adlt.Remote.Srv
/-! # C15 — the remote server answers every command once and its state follows its replies   (partial)

`Rem.Srv.step` is the command dispatcher of `process_incoming_text_message` as a state machine over (open file, live
streams, next id); the harness plays generated command histories against the `adlt remote` binary of the working tree and
compares every reply. Liveness of the connection and of the process, "exactly one reply", and close-while-parsing are
facts about the running server: they are observed on every run (oracle clauses of `Rem.doLine`), not proved. -/
namespace Props
open Rem

/-- every command of a history gets exactly one reply -/
theorem C15_one_reply_each (files : List RMsg) (s : Srv) (cs : List Cmd) : (Srv.run files s cs).1.length = cs.length := by
  induction cs generalizing s with
  | nil => rfl
  | cons c t ih => simp [Srv.run, ih]

/-- a file is open exactly between an `ok:` to `open` and the next `ok:` to `close`; `open` is accepted iff nothing is open
    (and the files hold a message), `close` iff something is open -/
theorem C15_file_open_iff (s : Srv) (files : List RMsg) (c : Cmd) :
    ((s.step files c).1.file.isSome =
      (match c, (s.step files c).2 with
       | .openOk, .ok _ => true
       | .close, .ok _ => false
       | _, _ => s.file.isSome)) ∧
    ((s.step files .openOk).2 = .ok "open" ↔ (s.file.isSome = false ∧ files ≠ [])) ∧
    ((s.step files .close).2 = .ok "close" ↔ s.file.isSome) :=
  ⟨open_iff s files c, open_ok_iff s files, (close_ok_iff s files).1⟩

/-- a close that is accepted ends every stream, and a following open of the files is accepted again -/
theorem C15_close_then_open (s : Srv) (files : List RMsg) (h : s.file.isSome) (hf : files ≠ []) :
    (s.step files .close).1.streams = [] ∧ ((s.step files .close).1.step files .openOk).2 = .ok "open" :=
  ⟨(close_ok_iff s files).2 h, open_after_close s files h hf⟩

/-- a stream id is usable from its announcement on: announcing a stream answers with the next id, and that id is live -/
theorem C15_id_usable_from_creation (s : Srv) (files ms : List RMsg) (fs : FSpec) (a b : Nat) (h : s.Inv)
    (hf : s.file = some ms) :
    (s.step files (.stream true fs a b)).2 = .ok s!"id{s.nextK}" ∧
    ((s.step files (.stream true fs a b)).1.find s.nextK).isSome := by
  rw [step_stream s files ms true fs a b hf]
  refine ⟨rfl, ?_⟩
  -- no live stream has the new id yet, so the lookup finds the stream just appended
  have hn : s.streams.find? (·.k == s.nextK) = none :=
    List.find?_eq_none.2 fun st hst => by simp [Nat.ne_of_lt (h st hst)]
  -- the live streams are now `s.streams ++ [the new one]`
  rw [Srv.find, if_pos rfl, find_append_fresh, hn, if_pos]
  · rfl
  · exact decide_eq_true rfl  -- the stream appended has the id looked for

/-- it stays usable (or unusable) through every command that is not its stop, its window change, a close or an accepted open -/
theorem C15_id_usable_until_ended (s : Srv) (files : List RMsg) (c : Cmd) (k : Nat) (h : s.Inv) (hk : k < s.nextK)
    (h1 : c ≠ .stop k) (h2 : c ≠ .close) (h3 : c ≠ .openOk) (h4 : ∀ a b, c ≠ .changeWindow k a b) :
    (s.step files c).1.find k = s.find k := find_preserved s files c k hk h1 h2 h3 h4

/-- it is not usable after its stop or a close; ids below `nextK` that are not live are never handed out again
    (`C15_ids_fresh`), so an ended id stays unusable for ever -/
theorem C15_id_unusable_after_stop_close (s : Srv) (files : List RMsg) (k : Nat) (hc : s.Closed) :
    (s.step files (.stop k)).1.find k = none ∧ (s.step files .close).1.find k = none := by
  constructor
  · rw [step_stop s files k hc]
    split
    · exact (find_filter_ne s.streams k k).trans (if_pos rfl)
    · rename_i h; exact Option.not_isSome_iff_eq_none.1 h
  · simp only [Srv.step.eq_def]
    split
    · rfl
    · rename_i hno
      have : s.file = none := Option.not_isSome_iff_eq_none.1 hno
      simp [Srv.find, hc this]

/-- the id of every live stream is below the next id, in every reachable state: a new id never collides with a live or an
    ended one -/
theorem C15_ids_fresh (files : List RMsg) (cs : List Cmd) : (Srv.run files {} cs).2.Inv ∧ (Srv.run files {} cs).2.Closed :=
  ⟨run_keeps files (fun s c => step_inv s files c) {} cs (List.forall_mem_nil _),
   run_keeps files (fun s c => step_closed s files c) {} cs (fun _ => rfl)⟩

/-- commands on a stream are accepted exactly while the id is usable (shown for `stop`; the other stream commands
    dispatch on the same lookup) -/
theorem C15_stop_accepted_iff (s : Srv) (files : List RMsg) (k : Nat) (hc : s.Closed) :
    (s.step files (.stop k)).2 = .ok "stop" ↔ (s.find k).isSome := by
  rw [step_stop s files k hc]
  split <;> simp [*]

/-- non-vacuity: open, stream, stop, stop again, close, open -/
example : (Srv.run [{ index := 0, ecu := 0, recv := 1, tsDms := 1, apid := "A", ctid := "C", text := "x" }] {}
    [.openOk, .stream true [] 0 5, .stop 1, .stop 1, .close, .close, .openOk]).1
    = [.ok "open", .ok "id1", .ok "stop", .err, .ok "close", .err, .ok "open"] := by decide

end Props
