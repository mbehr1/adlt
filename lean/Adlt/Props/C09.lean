import Adlt.Merge.Proofs
/-! # C09 — merging message sources loses nothing and keeps per-source order

Model: the acceptor `Mrg.accepts` (every output `SortingMultiReaderIterator` may produce, whatever `BinaryHeap` does
with equal reception times, is accepted — checked on every implementation output) and `Mrg.seqChain`. -/
namespace Props
open Mrg

/-- every message of every source exactly once -/
theorem C09_perm (srcs : List (List MMsg)) (out : List MMsg) (h : accepts srcs out = true) :
    (out.map key).Perm (srcs.flatten.map key) := accepts_perm srcs out h

/-- messages from the same source keep their relative order (`ht` is not used: the acceptor compares `src` itself, so what it
    accepts is tagged) -/
theorem C09_source_order (srcs : List (List MMsg)) (out : List MMsg) (ht : Tagged srcs) (h : accepts srcs out = true)
    (i : Nat) : (out.filter (·.src == i)).map key = ((srcs[i]?).getD []).map key := accepts_order srcs out h i

/-- if every source is ordered by reception time, the merged stream is -/
theorem C09_sorted (srcs : List (List MMsg)) (out : List MMsg)
    (hsort : ∀ s ∈ srcs, s.Pairwise (fun a b => a.recv ≤ b.recv)) (h : accepts srcs out = true) :
    out.Pairwise (fun a b => a.recv ≤ b.recv) := (accepts_sorted srcs out hsort h).1

/-- consecutive numbering of the merged stream -/
theorem C09_index (i0 : Nat) (l : List MMsg) : (renumber i0 l).map (·.index) = List.range' i0 l.length := by
  rw [renumber, List.map_map]
  -- the index written is `i0 +` the second projection of `zipIdx`, i.e. `i0 +` the positions `0, 1, …`
  exact (List.map_map (f := Prod.snd) (g := (i0 + ·)) (l := l.zipIdx)).symm.trans
    ((congrArg _ (List.zipIdx_map_snd 0 l)).trans (List.map_add_range' 0 l.length 1))

/-- chaining yields the concatenation numbered consecutively from the start index, for any number of empty sources anywhere -/
theorem C09_chain (i0 : Nat) (srcs : List (List MMsg)) :
    (seqChain i0 srcs).map key = srcs.flatten.map key ∧
    (seqChain i0 srcs).map (·.index) = List.range' i0 srcs.flatten.length :=
  ⟨renumber_key _ _, C09_index _ _⟩

/-- the `new_or_single_it` variants are the merge / the chain for every family that is not exactly one source -/
theorem C09_or_single_multi (i0 : Nat) (srcs : List (List MMsg)) (h : srcs.length ≠ 1) :
    mergeOrSingle i0 srcs = renumber i0 (merge srcs) ∧ chainOrSingle i0 srcs = seqChain i0 srcs := by
  rcases srcs with _ | ⟨_, _ | _⟩
  · exact ⟨rfl, rfl⟩
  · exact absurd rfl h
  · exact ⟨rfl, rfl⟩

/-- numbering of the `new_or_single_it` variants: consecutive from the start index for every family that is not exactly
    one source. **Partial**: for exactly one source the statement is false of the unchanged code
    (`C09_single_source_witness`; known finding `C09-single-source-keeps-its-own-numbering`) -/
theorem C09_or_single_numbering_partial (i0 : Nat) (srcs : List (List MMsg)) (h : srcs.length ≠ 1) :
    (mergeOrSingle i0 srcs).map (·.index) = List.range' i0 (mergeOrSingle i0 srcs).length ∧
    (chainOrSingle i0 srcs).map (·.index) = List.range' i0 (chainOrSingle i0 srcs).length := by
  obtain ⟨e1, e2⟩ := C09_or_single_multi i0 srcs h
  have hlen : ∀ l, (renumber i0 l).length = l.length := fun l => by rw [renumber, List.length_map, List.length_zipIdx]
  rw [e1, e2, seqChain, C09_index, C09_index, hlen, hlen]
  exact ⟨rfl, rfl⟩

/-- the single-source shortcut: one source with own numbering 7.. and start index 5 comes back numbered 7.. -/
theorem C09_single_source_witness :
    (mergeOrSingle 5 [[{ src := 0, pos := 0, recv := 1, index := 7 }, { src := 0, pos := 1, recv := 2, index := 8 }]]).map (·.index) = [7, 8] ∧
    (chainOrSingle 5 [[{ src := 0, pos := 0, recv := 1, index := 7 }, { src := 0, pos := 1, recv := 2, index := 8 }]]).map (·.index) = [7, 8] ∧
    List.range' 5 2 = [5, 6] := by decide

/-- non-vacuity: the acceptor accepts both orders of a tie and rejects a loss -/
example : accepts [[{ src := 0, pos := 0, recv := 5 }], [{ src := 1, pos := 0, recv := 5 }]]
            [{ src := 1, pos := 0, recv := 5 }, { src := 0, pos := 0, recv := 5 }] = true ∧
          accepts [[{ src := 0, pos := 0, recv := 5 }], [{ src := 1, pos := 0, recv := 5 }]]
            [{ src := 1, pos := 0, recv := 5 }] = false := by decide

end Props
