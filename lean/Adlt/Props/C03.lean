import Adlt.Safe.CtrlProofs
import Adlt.Safe.ArgIter
import Adlt.Lc.Ops
/-! # C03 — no input content can crash ingestion and analysis   (partial)

Rust panics are values in the checked models (`Safe.R = Except Panic`): every `&p[a..b]`, `.get(a..b).unwrap()`,
`p[i]` and `usize` subtraction of the modelled function is a possible `Panic`. Modelled: the five control-message payload
parsers (src/dlt/control_msgs.rs) and the verbose and non-verbose argument iterators (`DltMessageArgIterator::next`).
The rest of the chain (text converters, decoders, plugins, and the lifecycle detector's `assert_ne!(lc_to_merge.nr_msgs, 0)`,
src/lifecycle/mod.rs) is covered by the worker search only — see DESIGN.md. -/
namespace Props
open Safe

/-- none of the control-message payload parsers can panic, whatever the payload -/
theorem C03_ctrl_parsers_never_panic (status : Nat) (be : Bool) (p : Bytes) :
    (∃ r, logInfo status be p = .ok r) ∧ (∃ r, swVersion be p = .ok r) ∧ (∃ r, unregisterContext p = .ok r) ∧
    (∃ r, connectionInfo p = .ok r) ∧ (∃ r, timezone be p = .ok r) :=
  ⟨(logInfo_safe status be p).safe, (swVersion_safe be p).safe, (unregisterContext_safe p).safe, (connectionInfo_safe p).safe,
   (timezone_safe be p).safe⟩

/-- iterating over the arguments of a message cannot panic: from any index (also one that an over-long length field moved
    beyond the payload), for any number of steps -/
theorem C03_arg_iteration_never_panics (be : Bool) (p : Bytes) (fuel idx : Nat) (acc : List Arg.DArg) :
    (∃ r, argNext be p idx = .ok r) ∧ (∃ r, argIter be p fuel idx acc = .ok r) ∧ (∃ r, nonVerboseArgs p = .ok r) :=
  ⟨(argNext_safe be p idx).safe, (argIter_safe be p fuel idx acc).safe, (nonVerboseArgs_safe p).safe⟩

/-- the first argument of a non-verbose message has exactly 4 bytes: what the `get(0..4).unwrap()` on it in
    payload_as_text / eac_stats / non_verbose / can relies on (each site first checks that the message is non-verbose:
    fix 4d26adc) -/
theorem C03_nonverbose_first_arg_is_4_bytes (p a : Bytes) (t : List Bytes) (h : nonVerboseArgs p = .ok (a :: t)) :
    a.length = 4 := by
  obtain ⟨r, hr, h4⟩ := nonVerboseArgs_safe p
  rw [h] at hr
  cases hr
  exact h4 a rfl

/-- the `panicked` flag of the lifecycle model stays false: no operation of the model sets it (the detector's own assertion
    is not modelled, see above) -/
theorem C03_lifecycle_never_stops (ms : List Lcm.Msg) : (Lcm.run ms).panicked = false := Lcm.run_not_panicked ms

/-- non-vacuity: a GET_LOG_INFO response with one application and one context is parsed to that entry; cut after the
    context id it is refused without a panic -/
example : logInfo 6 false [1, 0, 65, 80, 80, 0, 1, 0, 67, 84, 88, 0, 4, 1] =
    .ok [{ apid := [65, 80, 80, 0], ctids := [{ ctid := [67, 84, 88, 0], logLevel := some 4, traceStatus := some 1, desc := none }], desc := none }] := by
  rfl
example : logInfo 6 false [1, 0, 65, 80, 80, 0, 1, 0, 67, 84, 88, 0] = .ok [] := by rfl
/-- the checked primitives do report what the Rust code would do without its checks -/
example : slice [1, 2, 3] 2 5 = .error .sliceOOB := by rfl

end Props
