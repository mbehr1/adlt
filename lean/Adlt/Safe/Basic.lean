/-! Rust panics as values: slicing, `unwrap`, checked `usize` subtraction. A model function whose Rust original can
    panic returns `R α`; panic-freedom is then the ordinary theorem `∃ r, f x = .ok r`. -/
namespace Safe

inductive Panic where
  | sliceOOB       -- `&p[a..b]` with `a > b` or `b > len`
  | unwrapNone     -- `.unwrap()` on `None`
  | arith          -- `usize` subtraction below zero (debug: panic; release: wrap-around followed by nonsense)
  | indexOOB       -- `p[i]` with `i >= len`
deriving Repr, DecidableEq

abbrev R := Except Panic
abbrev Bytes := List UInt8

/-- `&p[a..b]` -/
def slice (p : Bytes) (a b : Nat) : R Bytes :=
  if a ≤ b ∧ b ≤ p.length then .ok ((p.drop a).take (b - a)) else .error .sliceOOB

/-- `p.get(a..b)` -/
def get (p : Bytes) (a b : Nat) : Option Bytes :=
  if a ≤ b ∧ b ≤ p.length then some ((p.drop a).take (b - a)) else none

def unwrap {α} : Option α → R α
  | some a => .ok a
  | none => .error .unwrapNone

/-- `a - b` on `usize` -/
def sub (a b : Nat) : R Nat := if b ≤ a then .ok (a - b) else .error .arith

/-- `p[i]` -/
def index (p : Bytes) (i : Nat) : R UInt8 :=
  match p[i]? with
  | some x => .ok x
  | none => .error .indexOOB

def leNat (b : Bytes) : Nat := b.foldr (fun x acc => x.toNat + 256 * acc) 0
def beNat (b : Bytes) : Nat := leNat b.reverse
def rdNat (be : Bool) (b : Bytes) : Nat := if be then beNat b else leNat b

theorem slice_ok (p : Bytes) (a b : Nat) (h1 : a ≤ b) (h2 : b ≤ p.length) :
    slice p a b = .ok ((p.drop a).take (b - a)) := if_pos ⟨h1, h2⟩
theorem get_some (p : Bytes) (a b : Nat) (h1 : a ≤ b) (h2 : b ≤ p.length) :
    get p a b = some ((p.drop a).take (b - a)) := if_pos ⟨h1, h2⟩
theorem sub_ok (a b : Nat) (h : b ≤ a) : sub a b = .ok (a - b) := if_pos h
@[simp] theorem unwrap_some {α} (a : α) : unwrap (some a) = .ok a := rfl

def Ok {α} (x : R α) (P : α → Prop := fun _ => True) : Prop := ∃ r, x = .ok r ∧ P r

theorem Ok.ok {α} {P : α → Prop} {a : α} (h : P a) : Ok (.ok a) P := ⟨a, rfl, h⟩
@[simp] theorem ok_ok {α} (a : α) : Ok (.ok a : R α) := Ok.ok trivial
theorem Ok.safe {α} {P : α → Prop} {x : R α} (h : Ok x P) : ∃ r, x = .ok r := h.imp fun _ h => h.1

theorem ok_ite {α} {P : α → Prop} {c : Prop} [Decidable c] {x y : R α} :
    Ok (if c then x else y) P ↔ (c → Ok x P) ∧ (¬c → Ok y P) := by
  split <;> simp [*]

end Safe
