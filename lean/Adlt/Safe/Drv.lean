import Adlt.Safe.CtrlProofs
import Adlt.Safe.ArgIter
import Adlt.Util.Parse
/-! glue for C03.
    `c03`  case: `<kind> | <base> | <ops>`; obs: `ok n=… lcs=… …` / `PANIC <where>` / `ABORT …` / `TIMEOUT` (isolated worker running the whole chain).
           The model's prediction is the constant `ok` (no input makes the chain panic); theorems back it for the control-message
           parsers and the argument iterators only (Props/C03.lean), the worker search speaks for the rest of the chain.
    `c03f` case: `<fn>,<be>,<status>,<payloadhex>`; obs: the canonical result of the real function, `PANIC` if it panicked. -/
namespace Safe
open Util

def optText (hasNl : Bool) : Option Bytes → String
  | some b => if hasNl then "S*" else s!"S{b.length}"
  | none => "N"

def optNat : Option Nat → String
  | some n => toString n
  | none => "-"

def showApps (hasNl : Bool) (apps : List AppInfo) : String :=
  "L" ++ ";".intercalate (apps.map fun a =>
    let cs := a.ctids.map fun c => s!"{hexOf c.ctid}:{optNat c.logLevel}:{optNat c.traceStatus}:{optText hasNl c.desc}"
    s!"{hexOf a.apid}[{"+".intercalate cs}]{optText hasNl a.desc}")

def runF (f : String) (be : Bool) (status : Nat) (p : Bytes) : String :=
  let hasNl := p.any fun b => b == 10 || b == 13
  let shw {α} (r : R α) (g : α → String) : String := match r with | .ok x => g x | .error _ => "PANIC"
  match f with
  | "sw" => shw (swVersion be p) (optText hasNl)
  | "li" => shw (logInfo status be p) (showApps hasNl)
  | "un" => shw (unregisterContext p) fun
      | some (a, c, m) => s!"U{hexOf a}:{hexOf c}:{hexOf m}"
      | none => "N"
  | "ci" => shw (connectionInfo p) fun
      | some (s, c) => s!"C{s.toNat}:{hexOf c}"
      | none => "N"
  | "tz" => shw (timezone be p) fun
      | some (g, d) => s!"Z{g}:{if d then 1 else 0}"
      | none => "N"
  | "ai" => shw (argIter be p (p.length + 1) 0 []) fun l => "A" ++ ";".intercalate (l.map fun a => s!"{a.ti}:{hexOf a.raw}")
  | "nv" => shw (nonVerboseArgs p) fun l => "A" ++ ";".intercalate (l.map fun a => s!"0:{hexOf a}")
  | _ => "?"

def doLineF (line : String) : String :=
  let (cs, impl) := match line.splitOn "\t" with
    | [c, i] => (c, i)
    | [c] => (c, "")
    | _ => ("", "")
  match cs.splitOn "," with
  | f :: be :: st :: rest =>
    let p := hexBytes (rest.headD "")
    let mobs := runF f (be == "1") (nat! st) p
    let orc (o : String) : String := if o == "PANIC" then "C03=FAIL:panic-in-" ++ f else "C03=ok"
    let tags := [f] ++ (if mobs == "N" || mobs == "L" || mobs == "A" then ["empty-result"] else ["result"]) ++ (if be == "1" then ["big-endian"] else [])
    s!"{mobs}\t{if impl == "" then "-" else orc impl}\t{orc mobs}\t{",".intercalate tags}"
  | _ => "bad\tC03=FAIL:unparsable\tC03=FAIL:unparsable\t"

def firstWord (s : String) : String := (s.splitOn " ").headD ""

def doLine (line : String) : String :=
  let (cs, impl) := match line.splitOn "\t" with
    | [c, i] => (c, i)
    | [c] => (c, "")
    | _ => ("", "")
  let parts := cs.splitOn " | "
  let kind := parts.headD ""
  let base := (parts.getD 1 "")
  let ops := fields (parts.getD 2 "") ";"
  let orc (o : String) : String :=
    if o.startsWith "ok" then "C03=ok"
    else if o.startsWith "PANIC" then "C03=FAIL:panic " ++ ((o.drop 6).toString.map fun c => if c == ';' || c == '=' then ' ' else c)
    else if o.startsWith "ABORT" then "C03=FAIL:abort-or-allocation-failure"
    else if o.startsWith "TIMEOUT" then "C03=FAIL:does-not-terminate"
    else "C03=FAIL:no-result"
  let stat : String → Nat := fun k => match (fields impl " ").find? (·.startsWith (k ++ "=")) with
    | some t => nat! (t.drop (k.length + 1)).toString
    | none => 0
  let tags : List String := [kind] ++ (if base.startsWith "F" then ["repo-file"] else if base.startsWith "Y" then ["synthetic"] else ["literal"]) ++
    (if ops.isEmpty then ["unmodified"] else ["corrupted"]) ++
    (if ops.any (·.startsWith "t") then ["truncated"] else []) ++ (if ops.any (·.startsWith "c") then ["spliced"] else []) ++
    (if ops.any (·.startsWith "b") then ["bit-flip"] else []) ++
    (if stat "n" != 0 then ["messages"] else ["no-message"]) ++ (if stat "lcs" != 0 && stat "lcs" != 1 then ["multi-lc"] else []) ++
    (if stat "args" != 0 then ["args"] else []) ++ (if stat "matched" != 0 then ["filter-match"] else [])
  s!"ok\t{if impl == "" then "-" else orc impl}\tC03=ok\t{",".intercalate tags}\t{firstWord impl}"

end Safe
