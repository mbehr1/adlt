import Adlt.Safe.Ctrl
/-! Panic-freedom of the control-message payload parsers, for every payload: each slice / unwrap / subtraction is
    covered by the length check that precedes it, via the invariant `offset + avail = payload.len()`. Every proof goes:
    `ok_ite.2 ⟨then, else⟩` for a guarded block, rewrite the guarded primitive to `.ok _` (`slice_ok`, `get_some`, `advance_ok`),
    case on the result of a sub-block. -/
namespace Safe

abbrev Inv (p : Bytes) (c : Cur) : Prop := c.offset + c.avail = p.length

/-- postcondition of the blocks that hand a cursor on; by cases, so that `Keeps p (some (b, c))` unfolds to `Inv p c` and a proof
    of the one is accepted for the other -/
def Keeps {β} (p : Bytes) : Option (β × Cur) → Prop
  | none => True
  | some (_, c) => Inv p c

theorem parseInt_some (be : Bool) (p : Bytes) (off n : Nat) (h : off + n ≤ p.length) :
    ∃ v, parseInt be p off n = .ok (some v) := by
  unfold parseInt
  rw [if_neg (Nat.not_lt.mpr h), get_some p off (off + n) (Nat.le_add_right _ _) h]
  exact ⟨_, rfl⟩

theorem advance_ok (p : Bytes) (c : Cur) (n : Nat) (hn : n ≤ c.avail) (hi : Inv p c) :
    advance c n = .ok ⟨c.offset + n, c.avail - n⟩ ∧ Inv p ⟨c.offset + n, c.avail - n⟩ ∧ c.offset + n ≤ p.length := by
  unfold advance
  rw [sub_ok _ _ hn]
  exact ⟨rfl, by dsimp only [Inv]; rw [Nat.add_assoc, Nat.add_sub_of_le hn]; exact hi, hi ▸ Nat.add_le_add_left hn _⟩

theorem index_ok (p : Bytes) (i : Nat) (h : i < p.length) : ∃ x, index p i = .ok x := by
  unfold index
  rw [List.getElem?_eq_getElem h]
  exact ⟨_, rfl⟩

theorem swVersion_safe (be : Bool) (p : Bytes) : Ok (swVersion be p) := by
  unfold swVersion
  refine ok_ite.2 ⟨fun h => ?_, fun _ => ok_ok _⟩
  rw [get_some p 0 4 (by decide) h, unwrap_some, slice_ok p 4 p.length h (Nat.le_refl _)]
  refine ok_ite.2 ⟨fun h2 => ?_, fun _ => ok_ok _⟩
  rw [slice_ok _ 0 _ (Nat.zero_le _) h2]
  exact ok_ok _

theorem unregisterContext_safe (p : Bytes) : Ok (unregisterContext p) := by
  unfold unregisterContext
  refine ok_ite.2 ⟨fun h => ?_, fun _ => ok_ok _⟩
  rw [slice_ok p 0 4 (by decide) (h ▸ by decide), slice_ok p 4 8 (by decide) (h ▸ by decide), slice_ok p 8 12 (by decide) (Nat.le_of_eq h.symm)]
  exact ok_ok _

theorem connectionInfo_safe (p : Bytes) : Ok (connectionInfo p) := by
  unfold connectionInfo
  refine ok_ite.2 ⟨fun h => ?_, fun _ => ok_ok _⟩
  obtain ⟨x, hx⟩ := index_ok p 0 (h ▸ by decide)
  rw [hx, slice_ok p 1 5 (by decide) (Nat.le_of_eq h.symm)]
  exact ok_ok _

theorem timezone_safe (be : Bool) (p : Bytes) : Ok (timezone be p) := by
  unfold timezone
  refine ok_ite.2 ⟨fun h => ?_, fun _ => ok_ok _⟩
  obtain ⟨v, hv⟩ := parseInt_some be p 0 4 (h ▸ by decide)
  obtain ⟨x, hx⟩ := index_ok p 4 (h ▸ by decide)
  simp only [hv, unwrap_some, hx]
  exact ok_ok _

theorem descBlock_ok (be : Bool) (p : Bytes) (c : Cur) (hi : Inv p c) : Ok (descBlock be p c) (Keeps p) := by
  unfold descBlock
  refine ok_ite.2 ⟨fun h => ?_, fun _ => Ok.ok trivial⟩
  obtain ⟨hc1, hi1, hl1⟩ := advance_ok p c 2 h hi
  obtain ⟨len, hv⟩ := parseInt_some be p c.offset 2 hl1
  simp only [hv, unwrap_some, hc1]
  refine ok_ite.2 ⟨fun h2 => ?_, fun _ => Ok.ok hi1⟩
  obtain ⟨hc2, hi2, hl2⟩ := advance_ok p _ len h2.2 hi1
  rw [slice_ok p _ _ (Nat.le_add_right _ _) hl2, hc2]
  exact Ok.ok hi2

theorem byteField_ok (be : Bool) (p : Bytes) (present : Bool) (c : Cur) (hi : Inv p c) :
    Ok (byteField be p present c) (Keeps p) := by
  unfold byteField
  refine ok_ite.2 ⟨fun _ => ok_ite.2 ⟨fun _ => Ok.ok trivial, fun h => ?_⟩, fun _ => Ok.ok hi⟩
  obtain ⟨hc1, hi1, hl1⟩ := advance_ok p c 1 (Nat.not_lt.mp h) hi
  obtain ⟨v, hv⟩ := parseInt_some be p c.offset 1 hl1
  rw [hv, hc1]
  exact Ok.ok hi1

theorem ctidEntry_ok (be : Bool) (p : Bytes) (a b d : Bool) (c : Cur) (hi : Inv p c) :
    Ok (ctidEntry be p a b d c) (Keeps p) := by
  unfold ctidEntry
  refine ok_ite.2 ⟨fun _ => Ok.ok trivial, fun h => ?_⟩
  obtain ⟨hc1, hi1, hl1⟩ := advance_ok p c 4 (Nat.not_lt.mp h) hi
  rw [get_some p c.offset (c.offset + 4) (Nat.le_add_right _ _) hl1, hc1]
  dsimp only [unwrap_some]
  obtain ⟨_ | ⟨ll, c2⟩, hr2, hi2⟩ := byteField_ok be p a _ hi1 <;> rw [hr2]
  · exact Ok.ok trivial
  obtain ⟨_ | ⟨ts, c3⟩, hr3, hi3⟩ := byteField_ok be p b c2 hi2 <;> simp only [hr3]
  · exact Ok.ok trivial
  refine ok_ite.2 ⟨fun _ => ?_, fun _ => Ok.ok hi3⟩
  obtain ⟨_ | ⟨dd, c4⟩, hr4, hi4⟩ := descBlock_ok be p c3 hi3 <;> rw [hr4]
  · exact Ok.ok trivial
  · exact Ok.ok hi4

theorem ctidLoop_ok (be : Bool) (p : Bytes) (a b d : Bool) (n : Nat) :
    ∀ (c : Cur) (acc : List CtidInfo), Inv p c → Ok (ctidLoop be p a b d n c acc) (Keeps p) := by
  induction n with
  | zero => exact fun c acc hi => Ok.ok hi
  | succ n ih =>
    intro c acc hi
    unfold ctidLoop
    obtain ⟨_ | ⟨e, c1⟩, hr, hi1⟩ := ctidEntry_ok be p a b d c hi <;> rw [hr]
    · exact Ok.ok trivial
    · exact ih c1 _ hi1

def KeepsStep (p : Bytes) : AppStep → Prop
  | .next _ c => Inv p c
  | _ => True

theorem appEntry_ok (be : Bool) (p : Bytes) (a b d : Bool) (c : Cur) (hi : Inv p c) :
    Ok (appEntry be p a b d c) (KeepsStep p) := by
  unfold appEntry
  refine ok_ite.2 ⟨fun _ => Ok.ok trivial, fun h => ?_⟩
  obtain ⟨hc1, hi1, hl1⟩ := advance_ok p c 6 (Nat.not_lt.mp h) hi
  obtain ⟨cnt, hv⟩ := parseInt_some be p (c.offset + 4) 2 hl1  -- `c.offset + 6` is `c.offset + 4 + 2` by computation
  rw [get_some p c.offset (c.offset + 4) (Nat.le_add_right _ _) (Nat.le_of_add_right_le (k := 2) hl1)]
  simp only [unwrap_some, hv, hc1]
  obtain ⟨_ | ⟨ctids, c2⟩, hr2, hi2⟩ := ctidLoop_ok be p a b d cnt _ [] hi1 <;> rw [hr2]
  · exact Ok.ok trivial
  refine ok_ite.2 ⟨fun _ => ?_, fun _ => Ok.ok hi2⟩
  obtain ⟨_ | ⟨dd, c4⟩, hr4, hi4⟩ := descBlock_ok be p c2 hi2 <;> rw [hr4]
  · exact Ok.ok trivial
  · exact Ok.ok hi4

theorem appLoop_ok (be : Bool) (p : Bytes) (a b d : Bool) (n : Nat) :
    ∀ (c : Cur) (acc : List AppInfo), Inv p c → Ok (appLoop be p a b d n c acc) := by
  induction n with
  | zero => exact fun _ _ _ => ok_ok _
  | succ n ih =>
    intro c acc hi
    unfold appLoop
    obtain ⟨_ | _ | _, hr, hn⟩ := appEntry_ok be p a b d c hi <;> rw [hr]
    · exact ih _ _ hn
    · exact ok_ok _
    · exact ok_ok _

theorem logInfo_safe (status : Nat) (be : Bool) (p : Bytes) : Ok (logInfo status be p) := by
  unfold logInfo
  refine ok_ite.2 ⟨fun _ => ok_ite.2 ⟨fun h => ?_, fun _ => ok_ok _⟩, fun _ => ok_ok _⟩
  obtain ⟨cnt, hv⟩ := parseInt_some be p 0 2 h
  simp only [hv, sub_ok p.length 2 h, unwrap_some]
  exact appLoop_ok be p _ _ _ cnt _ [] (Nat.add_sub_of_le h)

end Safe
