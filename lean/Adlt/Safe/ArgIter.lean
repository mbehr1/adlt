import Adlt.Safe.Basic
import Adlt.Args.Model
/-! Checked, index-based model of `DltMessageArgIterator::next` (src/dlt/mod.rs): the iterator state is the byte
    index into the payload; every `payload[a..b]` is a possible panic. For C03 only. C18 is proved on a second model of the
    same function, `Arg.next` (Args/Model.lean: list-consuming, no panics); no theorem connects the two. -/
namespace Safe
open Arg (DArg has tyleLen)

/-- the common tail: `if len > 0 && payload.len() >= index + len { Some(&payload[index..index+len]) } else { None }; index += len` -/
def fixedArg (p : Bytes) (ti idx len : Nat) : R (Option DArg × Nat) :=
  if len > 0 ∧ p.length ≥ idx + len then
    match slice p idx (idx + len) with
    | .ok raw => .ok (some { ti := ti, raw := raw }, idx + len)
    | .error e => .error e
  else .ok (none, idx + len)

/-- length-prefixed argument (STRG / RAWD) -/
def lenArg (be : Bool) (p : Bytes) (ti idx : Nat) : R (Option DArg × Nat) :=
  if p.length < idx + 2 then .ok (none, idx)
  else
    match slice p idx (idx + 2) with
    | .error e => .error e
    | .ok w =>
      let len := rdNat be w
      let idx := idx + 2
      if p.length ≥ idx + len then
        match slice p idx (idx + len) with
        | .ok raw => .ok (some { ti := ti, raw := raw }, idx + len)
        | .error e => .error e
      else .ok (none, idx + len)

/-- one call of `next()` on a verbose message: (argument or `None`, new index) -/
def argNext (be : Bool) (p : Bytes) (idx : Nat) : R (Option DArg × Nat) :=
  if p.length ≥ idx + 4 then
    match slice p idx (idx + 4) with
    | .error e => .error e
    | .ok w =>
      let ti := rdNat be w
      let idx := idx + 4
      let len := tyleLen ti
      if has ti Gen.tiVari then .ok (none, idx)
      else if has ti Gen.tiFixp then .ok (none, idx)
      else if has ti (Gen.tiAray + Gen.tiTrai + Gen.tiStru) then .ok (none, idx)
      else if has ti Gen.tiBool then
        (if len != 1 then (if Nat.land ti Gen.tiMaskTyle != 0 then .ok (none, idx) else fixedArg p ti idx 1) else fixedArg p ti idx len)
      else if has ti (Gen.tiSint + Gen.tiUint) then
        (if len < 1 then .ok (none, idx) else fixedArg p ti idx len)
      else if has ti Gen.tiFloa then
        (if len < 2 then .ok (none, idx) else fixedArg p ti idx len)
      else if has ti (Gen.tiStrg + Gen.tiRawd) then lenArg be p ti idx
      else .ok (none, idx)
  else .ok (none, idx)

/-- `for arg in &msg`: call `next()` until it returns `None` -/
def argIter (be : Bool) (p : Bytes) : Nat → Nat → List DArg → R (List DArg)
  | 0, _, acc => .ok acc
  | fuel + 1, idx, acc =>
    match argNext be p idx with
    | .error e => .error e
    | .ok (none, _) => .ok acc
    | .ok (some a, idx') => argIter be p fuel idx' (acc ++ [a])

/-- the non-verbose iterator: at most the 4-byte message id and the rest -/
def nonVerboseArgs (p : Bytes) : R (List Bytes) :=
  if p.length ≥ 4 then
    match slice p 0 4 with
    | .error e => .error e
    | .ok a =>
      if p.length > 4 then
        match slice p 4 p.length with
        | .ok b => .ok [a, b]
        | .error e => .error e
      else .ok [a]
  else .ok []

theorem fixedArg_safe (p : Bytes) (ti idx len : Nat) : Ok (fixedArg p ti idx len) := by
  unfold fixedArg
  refine ok_ite.2 ⟨fun h => ?_, fun _ => ok_ok _⟩
  rw [slice_ok p idx (idx + len) (Nat.le_add_right _ _) h.2]
  exact ok_ok _

theorem lenArg_safe (be : Bool) (p : Bytes) (ti idx : Nat) : Ok (lenArg be p ti idx) := by
  unfold lenArg
  refine ok_ite.2 ⟨fun _ => ok_ok _, fun h => ?_⟩
  rw [slice_ok p idx (idx + 2) (Nat.le_add_right _ _) (Nat.not_lt.mp h)]
  refine ok_ite.2 ⟨fun h2 => ?_, fun _ => ok_ok _⟩
  rw [slice_ok p _ _ (Nat.le_add_right _ _) h2]
  exact ok_ok _

theorem argNext_safe (be : Bool) (p : Bytes) (idx : Nat) : Ok (argNext be p idx) := by
  unfold argNext
  refine ok_ite.2 ⟨fun h => ?_, fun _ => ok_ok _⟩
  rw [slice_ok p idx (idx + 4) (Nat.le_add_right _ _) h]
  -- behind the type-info word: a tree of `if`s on its bits whose leaves are `.ok _`, `fixedArg` and `lenArg`
  simp only [ok_ite, ok_ok, fixedArg_safe, lenArg_safe, implies_true, and_self]

theorem argIter_safe (be : Bool) (p : Bytes) (fuel : Nat) : ∀ idx acc, Ok (argIter be p fuel idx acc) := by
  induction fuel with
  | zero => exact fun _ _ => ok_ok _
  | succ n ih =>
    intro idx acc
    unfold argIter
    obtain ⟨⟨_ | a, i'⟩, hr, _⟩ := argNext_safe be p idx <;> rw [hr]
    · exact ok_ok _
    · exact ih _ _

/-- no panic, and a first argument of exactly 4 bytes: what `get(0..4).unwrap()` on it relies on -/
theorem nonVerboseArgs_safe (p : Bytes) : Ok (nonVerboseArgs p) fun r => ∀ a ∈ r.head?, a.length = 4 := by
  unfold nonVerboseArgs
  refine ok_ite.2 ⟨fun h => ?_, fun _ => Ok.ok fun _ ha => nomatch ha⟩
  rw [slice_ok p 0 4 (by decide) h]
  have h4 : ∀ a ∈ some ((p.drop 0).take (4 - 0)), a.length = 4 := by
    rintro _ ⟨⟩
    exact List.length_take.trans (Nat.min_eq_left h)
  refine ok_ite.2 ⟨fun _ => ?_, fun _ => Ok.ok h4⟩
  rw [slice_ok p 4 p.length h (Nat.le_refl _)]
  exact Ok.ok h4

end Safe
