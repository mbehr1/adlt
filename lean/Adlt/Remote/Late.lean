import Adlt.Remote.IncrProofs
/-! `process_stream_new_msgs` as `process_file_context` calls it in collect mode `one_pass_streams`, where messages that every
    stream has processed are dropped from the front of `all_msgs`: a stream that is created *after* `drained` messages were
    dropped starts at the first message still available,
    `new_msgs_offset = max(min(all_msgs_last_processed_len, all_msgs_len), drained_all_msgs)`. -/
namespace Inc

def procNewD (keep : Nat → Bool) (partConst : Nat) (s : SC) (maxChunk drained : Nat) : SC :=
  let off := max (min s.processed s.allLen) drained
  let newLen := s.allLen - off
  if newLen = 0 then s
  else if !s.filtersActive then { s with processed := off + newLen }
  else
    let maxIdx := min newLen maxChunk
    if s.isStream then
      { s with filtered := s.filtered ++ matchRange keep off maxIdx, processed := off + maxIdx }
    else
      let r := queryLoop keep off maxIdx (min maxChunk partConst) s.stop (maxIdx + 1) 0 s.filtered s.processed
      { s with filtered := r.1, processed := r.2 }

/-- nothing drained that the stream had not processed: the round of the ordinary collect mode -/
theorem procNewD_of_le (keep : Nat → Bool) (pc : Nat) (s : SC) (c d : Nat) (hd : d ≤ s.processed) (h : s.processed ≤ s.allLen) :
    procNewD keep pc s c d = procNew keep pc s c := by
  unfold procNewD procNew
  rw [Nat.min_eq_left h, Nat.max_eq_left hd]

/-- a late stream's round is an ordinary round from the drained mark. A late query is no instance: `procNewD` hands the loop
    the old mark, which stays if the loop does not run. -/
theorem procNewD_late (keep : Nat → Bool) (pc : Nat) (s : SC) (c d : Nat) (hp : s.processed ≤ d) (hd : d < s.allLen)
    (hq : s.isStream = true ∨ s.filtersActive = false) :
    procNewD keep pc s c d = procNew keep pc { s with processed := d } c := by
  unfold procNewD procNew
  rw [Nat.max_eq_right (Nat.le_trans (Nat.min_le_left _ _) hp)]
  have h0 : ¬ (s.allLen - d = 0) := Nat.sub_ne_zero_of_lt hd
  dsimp only  -- the `let`s, so that the two tests `newLen = 0` read `s.allLen - d = 0`
  rw [if_neg h0, if_neg h0]
  rcases hq with hq | hq
  · rw [if_pos hq, if_pos hq]
  · rw [hq]; rfl

/-- a stream without filters has, after a round, processed every message received so far - also when it was created after
    messages had been drained -/
theorem procNewD_unfiltered_mark (keep : Nat → Bool) (pc : Nat) (s : SC) (c drained : Nat) (hf : s.filtersActive = false)
    (hd : drained < s.allLen) (hp : s.processed ≤ s.allLen) : (procNewD keep pc s c drained).processed = s.allLen := by
  rcases Nat.le_total drained s.processed with h | h
  · rw [procNewD_of_le keep pc s c drained h hp, procNew_unfiltered keep pc s c hf hp]
  · rw [procNewD_late keep pc s c drained h hd (.inr hf), procNew_unfiltered keep pc { s with processed := drained } c hf (Nat.le_of_lt hd)]

/-- a filtered stream created late indexes exactly the messages behind the drained ones that it has looked at -/
theorem procNewD_stream_index (keep : Nat → Bool) (pc : Nat) (s : SC) (c drained : Nat) (hf : s.filtersActive = true)
    (hs : s.isStream = true) (h0 : s.processed = 0) (hfl : s.filtered = []) (hd : drained < s.allLen) :
    (procNewD keep pc s c drained).filtered = matchRange keep drained ((procNewD keep pc s c drained).processed - drained) ∧
    drained ≤ (procNewD keep pc s c drained).processed ∧ (procNewD keep pc s c drained).processed ≤ s.allLen := by
  rw [procNewD_late keep pc s c drained (h0 ▸ Nat.zero_le _) hd (.inl hs), procNew_stream keep pc { s with processed := drained } c hf hs]
  refine ⟨?_, Nat.le_add_right _ _, ?_⟩
  · show s.filtered ++ matchRange keep drained _ = matchRange keep drained (drained + _ - drained)
    rw [hfl, List.nil_append, Nat.add_sub_cancel_left]
  · exact Nat.add_le_of_le_sub' (Nat.le_of_lt hd) (Nat.min_le_left _ _)

end Inc
