import Adlt.Remote.Model
/-! C16, time lookup: the model answers with the first file position whose time is not before the wanted one
    (`takeWhile`); `binary_search_by_time_us` answers with `partition_point` of the same predicate. On a file that is ordered
    by that time - which a file opened with `sort` is, by the key of the time sort - the two coincide: any position that has
    only earlier messages in front and none from it on is the model's position. -/
namespace Rem

theorem takeWhile_spec {α} (P : α → Prop) [DecidablePred P] (l : List α) :
    (∀ i x, i < (l.takeWhile fun x => decide (P x)).length → l[i]? = some x → P x) ∧
    (∀ x, l[(l.takeWhile fun x => decide (P x)).length]? = some x → ¬ P x) := by
  induction l with
  | nil => exact ⟨fun i x hi => absurd hi (Nat.not_lt_zero _), fun x hx => nomatch hx⟩
  | cons a t ih =>
    by_cases ha : P a
    · rw [List.takeWhile_cons_of_pos (p := fun x => decide (P x)) (decide_eq_true ha)]
      refine ⟨fun i x hi hx => ?_, ih.2⟩
      cases i with
      | zero => cases hx; exact ha
      | succ j => exact ih.1 j x (Nat.lt_of_succ_lt_succ hi) hx
    · rw [List.takeWhile_cons_of_neg (p := fun x => decide (P x)) (by simpa using ha)]
      exact ⟨fun i x hi => absurd hi (Nat.not_lt_zero _), fun x hx => by cases hx; exact ha⟩

/-- where `P` can only turn from true to false, the length of its leading run is the partition point -/
theorem takeWhile_sorted {α} (P : α → Prop) [DecidablePred P] (l : List α) (hs : l.Pairwise fun a b => P b → P a) :
    ∀ i x, (l.takeWhile fun x => decide (P x)).length ≤ i → l[i]? = some x → ¬ P x := by
  intro i x hi hx hPx
  obtain ⟨hil, rfl⟩ := List.getElem?_eq_some_iff.1 hx
  -- the element at the end of the run fails `P`; it is `x`, or `x` comes after it and would pass `P` on to it
  have hn := (takeWhile_spec P l).2 _ (List.getElem?_eq_getElem (Nat.lt_of_le_of_lt hi hil))
  rcases Nat.eq_or_lt_of_le hi with rfl | hlt
  · exact hn hPx
  · exact hn (List.pairwise_iff_getElem.1 hs _ _ _ hil hlt hPx)

/-- the position the model answers a time lookup with -/
def timePos (ms : List RMsg) (t : Nat) : Nat := (ms.takeWhile fun m => decide (m.time < t)).length

theorem timePos_le (ms : List RMsg) (t : Nat) : timePos ms t ≤ ms.length :=
  (List.takeWhile_sublist _).length_le

theorem timePos_spec (ms : List RMsg) (t : Nat) :
    (∀ i m, i < timePos ms t → ms[i]? = some m → m.time < t) ∧ (∀ m, ms[timePos ms t]? = some m → t ≤ m.time) :=
  ⟨(takeWhile_spec (fun m : RMsg => m.time < t) ms).1, fun m hm => Nat.le_of_not_lt ((takeWhile_spec (fun m : RMsg => m.time < t) ms).2 m hm)⟩

theorem timePos_sorted (ms : List RMsg) (t : Nat) (hs : ms.Pairwise fun a b => a.time ≤ b.time) :
    ∀ i m, timePos ms t ≤ i → ms[i]? = some m → t ≤ m.time := fun i m hi hm =>
  Nat.le_of_not_lt (takeWhile_sorted (fun m : RMsg => m.time < t) ms (hs.imp fun hab hb => Nat.lt_of_le_of_lt hab hb) i m hi hm)

/-- the only position with both properties: what `partition_point` returns on a time-sorted file -/
theorem timePos_unique (ms : List RMsg) (t : Nat) (p' : Nat) (hle : p' ≤ ms.length)
    (h1 : ∀ i m, i < p' → ms[i]? = some m → m.time < t) (h2 : ∀ i m, p' ≤ i → ms[i]? = some m → t ≤ m.time) :
    p' = timePos ms t := by
  obtain ⟨s1, s2⟩ := timePos_spec ms t
  -- the message at the smaller of two different candidates would be both before `t` and not
  refine Nat.le_antisymm (Nat.le_of_not_lt fun h => ?_) (Nat.le_of_not_lt fun h => ?_)
  · have hp := List.getElem?_eq_getElem (Nat.lt_of_lt_of_le h hle)
    exact Nat.lt_irrefl _ (Nat.lt_of_lt_of_le (h1 _ _ h hp) (s2 _ hp))
  · have hp := List.getElem?_eq_getElem (Nat.lt_of_lt_of_le h (timePos_le ms t))
    exact Nat.lt_irrefl _ (Nat.lt_of_lt_of_le (s1 _ _ h hp) (h2 _ _ (Nat.le_refl _) hp))

end Rem
