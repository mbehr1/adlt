import Adlt.Remote.Incr
/-! The incremental stream index and the window sender, for every schedule of arrivals, loop rounds (any chunk size) and
    window changes. Plan: (1) the query loop keeps "`filtered` is the filtered log below the mark" (`queryLoop_spec`): a part
    whose matches are all wanted extends the log to the end of the part and the loop goes on; a part with more matches is cut
    at the first match not wanted (`matchRange_nth`), and then the index is full and the loop ends. A round of `procNew` is
    one record update (`procNew_eq`). (2) `Inv` ties the index to the mark and what has been delivered to the
    window of what the sender sees; every event keeps it (`inv_step`), the adding ones because the mark only moves forward
    (`Inv.grow`). (3) A settled state has delivered the window of the complete stream (`settled_delivered`), and rounds
    settle because an unsettled round moves the mark (`ticks_deliver`). -/
namespace Inc

theorem matchRange_zero (keep : Nat → Bool) (a : Nat) : matchRange keep a 0 = [] := rfl

theorem matchRange_add (keep : Nat → Bool) (a n m : Nat) :
    matchRange keep a (n + m) = matchRange keep a n ++ matchRange keep (a + n) m := by
  simp only [matchRange, ← List.range'_append_1, List.filter_append]

theorem matchRange_succ (keep : Nat → Bool) (a n : Nat) :
    matchRange keep a (n + 1) = (if keep a then [a] else []) ++ matchRange keep (a + 1) n := by
  rw [matchRange, List.range'_succ, List.filter_cons]
  cases keep a <;> rfl

theorem mem_matchRange (keep : Nat → Bool) (a n q : Nat) :
    q ∈ matchRange keep a n ↔ a ≤ q ∧ q < a + n ∧ keep q = true := by
  simp [matchRange, List.mem_filter, List.mem_range'_1, and_assoc]

theorem matchRange_sorted (keep : Nat → Bool) (a n : Nat) : (matchRange keep a n).Pairwise (· < ·) :=
  (List.pairwise_lt_range' (s := a) (n := n)).sublist List.filter_sublist

theorem matchRange_length_le (keep : Nat → Bool) (a n : Nat) : (matchRange keep a n).length ≤ n :=
  Nat.le_trans (List.length_filter_le keep _) (Nat.le_of_eq List.length_range')

/-- the `w`-th match `q` of a range (counted from 0) has exactly the first `w` matches in front of it, so it lies at least
    `w` positions in. By induction from the right end: `q` lies in the shorter range, or it is the last position. -/
theorem matchRange_nth (keep : Nat → Bool) (a : Nat) {w q : Nat} : ∀ n, (matchRange keep a n)[w]? = some q →
    (matchRange keep a n).take w = matchRange keep a (q - a) ∧ a + w ≤ q ∧ q < a + n := by
  intro n
  induction n with
  | zero => intro h; cases h
  | succ n ih =>
    rw [matchRange_add keep a n 1]
    intro h
    by_cases hw : w < (matchRange keep a n).length
    · rw [List.getElem?_append_left hw] at h
      obtain ⟨h1, h2, h3⟩ := ih h
      exact ⟨(List.take_append_of_le_length (Nat.le_of_lt hw)).trans h1, h2, Nat.lt_succ_of_lt h3⟩
    · have hw := Nat.le_of_not_lt hw
      rw [List.getElem?_append_right hw] at h
      -- the one position `a + n` behind the shorter range matches, so it is `q`, and everything before it is taken
      obtain ⟨hi, _⟩ := List.getElem?_eq_some_iff.1 h
      have hq := (mem_matchRange keep _ _ _).1 (List.mem_of_getElem? h)
      obtain rfl : q = a + n := Nat.le_antisymm (Nat.le_of_lt_succ hq.2.1) hq.1
      obtain rfl : w = (matchRange keep a n).length := Nat.le_antisymm
        (Nat.le_of_sub_eq_zero (Nat.lt_one_iff.1 (Nat.lt_of_lt_of_le hi (matchRange_length_le keep (a + n) 1)))) hw
      rw [List.take_left' rfl, Nat.add_sub_cancel_left]
      exact ⟨rfl, Nat.add_le_add_left (matchRange_length_le keep a n) a, Nat.lt_succ_self _⟩

theorem matchRange_prefix (keep : Nat → Bool) (p q : Nat) (h : p ≤ q) :
    matchRange keep 0 q = matchRange keep 0 p ++ matchRange keep p (q - p) := by
  rw [← Nat.add_sub_cancel' h, matchRange_add, Nat.zero_add, Nat.add_sub_cancel_left]

theorem queryLoop_full (keep : Nat → Bool) (off maxIdx part stop fuel startIdx : Nat) (filtered : List Nat) (processed : Nat)
    (h : stop ≤ filtered.length) : queryLoop keep off maxIdx part stop fuel startIdx filtered processed = (filtered, processed) := by
  cases fuel with
  | zero => rfl
  | succ f =>
    rw [queryLoop, if_neg fun hc => Nat.not_lt.2 h hc.1]

/-- What the query loop guarantees, from a state where `filtered` is the filtered log below the mark and the mark is where
    the loop stands: the result `r` is again log-below-mark, the mark only moves forward and stays inside the chunk
    `[off, off + maxIdx)`, and a loop that has fuel, wants matches and has room moves the mark. The last conjunct is what
    makes rounds settle. -/
theorem queryLoop_spec (keep : Nat → Bool) (off maxIdx part stop : Nat) :
    ∀ (fuel startIdx : Nat) (filtered : List Nat), filtered = matchRange keep 0 (off + startIdx) → startIdx ≤ maxIdx →
      let r := queryLoop keep off maxIdx part stop fuel startIdx filtered (off + startIdx)
      r.1 = matchRange keep 0 r.2 ∧ off + startIdx ≤ r.2 ∧ r.2 ≤ off + maxIdx ∧
      (0 < fuel → filtered.length < stop → startIdx < maxIdx → 1 ≤ part → off + startIdx < r.2) := by
  intro fuel
  induction fuel with
  | zero => intro startIdx filtered h hp; exact ⟨h, Nat.le_refl _, Nat.add_le_add_left hp off, fun h => absurd h (Nat.lt_irrefl 0)⟩
  | succ fuel ih =>
    intro startIdx filtered h hp
    by_cases hc : filtered.length < stop ∧ startIdx < maxIdx
    · dsimp only [queryLoop]; rw [if_pos hc]
      -- the part examined is `[off + startIdx, off + mt)` with `startIdx ≤ mt ≤ maxIdx` (`<` for `part ≥ 1`), its matches `m`
      have hle := Nat.le_min.2 ⟨hp, Nat.le_add_right startIdx part⟩
      have hmx := Nat.min_le_left maxIdx (startIdx + part)
      have hlt := fun h : 1 ≤ part => Nat.lt_min.2 ⟨hc.2, Nat.lt_add_of_pos_right h⟩
      generalize min maxIdx (startIdx + part) = mt at hle hmx hlt ⊢
      have hend : off + startIdx + (mt - startIdx) = off + mt := by rw [Nat.add_assoc, Nat.add_sub_cancel' hle]
      generalize hm : matchRange keep (off + startIdx) (mt - startIdx) = m
      split
      · -- all of them are wanted: the index is the log below the end of the part, and the loop goes on
        obtain ⟨r1, r2, r3, _⟩ := ih mt (filtered ++ m)
          (by rw [h, ← hm, ← hend, matchRange_add keep 0 (off + startIdx), Nat.zero_add]) hmx
        exact ⟨r1, Nat.le_trans (Nat.add_le_add_left hle off) r2, r3,
          fun _ _ _ hpart => Nat.lt_of_lt_of_le (Nat.add_lt_add_left (hlt hpart) off) r2⟩
      · -- more than wanted: the mark goes on the first match not wanted, and the loop ends because the index is full
        rename_i hgt
        have hgt := Nat.lt_of_not_le hgt
        rw [queryLoop_full _ _ _ _ _ _ _ _ _ (by
          rw [List.length_append, List.length_take, Nat.min_eq_left (Nat.le_of_lt hgt)]
          exact Nat.sub_le_iff_le_add'.1 (Nat.le_refl _))]
        obtain ⟨t1, t2, t3⟩ := matchRange_nth keep (off + startIdx) (mt - startIdx)
          (show _ = some (m.getD (stop - filtered.length) 0) by
            rw [hm, List.getD_eq_getElem?_getD, List.getElem?_eq_getElem hgt]; rfl)
        generalize m.getD (stop - filtered.length) 0 = q at t1 t2 t3 ⊢
        rw [hm] at t1
        rw [hend] at t3
        exact ⟨by rw [t1, h, ← matchRange_prefix keep _ _ (Nat.le_of_add_right_le t2)], Nat.le_of_add_right_le t2,
          Nat.le_trans (Nat.le_of_lt t3) (Nat.add_le_add_left hmx off),
          fun _ _ _ _ => Nat.lt_of_lt_of_le (Nat.lt_add_of_pos_right (Nat.sub_pos_of_lt hc.1)) t2⟩
    · dsimp only [queryLoop]; rw [if_neg hc]
      exact ⟨h, Nat.le_refl _, Nat.add_le_add_left hp off, fun _ h1 h2 _ => absurd ⟨h1, h2⟩ hc⟩

structure Inv (keep : Nat → Bool) (s : SC) : Prop where
  -- the index is the filtered log below the progress mark
  idx : s.filtersActive = true → s.filtered = matchRange keep 0 s.processed
  -- the mark does not pass the messages parsed
  le : s.processed ≤ s.allLen
  sentLo : s.start ≤ s.sentEnd
  -- what has been sent lies in the window and in what the sender sees - unless nothing has been sent: a window change puts
  -- `sentEnd := start` wherever `start` is, also beyond the stream
  sentHi : s.sentEnd = s.start ∨ (s.sentEnd ≤ s.stop ∧ s.sentEnd ≤ s.seqNow.length)
  -- the client holds exactly positions `[start, sentEnd)` of what the sender sees
  del : s.delivered = (s.seqNow.take s.sentEnd).drop s.start

theorem inv_new (keep : Nat → Bool) (isStream fa : Bool) (a b : Nat) : Inv keep (SC.new isStream fa a b) :=
  ⟨fun _ => rfl, Nat.le_refl _, Nat.le_refl _, .inl rfl, List.drop_take_self.symm⟩

/-- the index needs no more rounds: everything is processed, or a query has all it can use -/
def IdxSettled (s : SC) : Prop :=
  s.filtersActive = true → (s.processed = s.allLen ∨ (s.isStream = false ∧ s.stop ≤ s.filtered.length))

/-- the complete stream over a file of `n` messages -/
def fullSeq (keep : Nat → Bool) (filtersActive : Bool) (n : Nat) : List Nat :=
  if filtersActive then matchRange keep 0 n else List.range n

/-- `IdxSettled s` (written out) and nothing more to send -/
def Settled (s : SC) : Prop :=
  (s.filtersActive = true → (s.processed = s.allLen ∨ (s.isStream = false ∧ s.stop ≤ s.filtered.length))) ∧
  ¬ (s.sentEnd < s.stop ∧ s.sentEnd < s.seqNow.length)

instance (s : SC) : Decidable (Settled s) := by unfold Settled; infer_instance

theorem procNew_unfiltered (keep : Nat → Bool) (pc : Nat) (s : SC) (c : Nat) (hf : s.filtersActive = false)
    (hp : s.processed ≤ s.allLen) : procNew keep pc s c = { s with processed := s.allLen } := by
  have hmark : ∀ p, p = s.allLen → ({ s with processed := p } : SC) = { s with processed := s.allLen } := fun _ e => e ▸ rfl
  -- the `if_pos`/`if_neg` below name the tests in the shape `dsimp only [procNew]` leaves them (`newLen = 0`, `(!filtersActive) = true`)
  dsimp only [procNew]
  by_cases h0 : s.allLen - s.processed = 0
  · rw [if_pos h0]; exact hmark s.processed (Nat.le_antisymm hp (Nat.le_of_sub_eq_zero h0))
  · rw [if_neg h0, if_pos (by rw [hf]; rfl)]; exact hmark _ (Nat.add_sub_cancel' hp)

theorem procNew_stream (keep : Nat → Bool) (pc : Nat) (s : SC) (c : Nat) (hf : s.filtersActive = true) (hs : s.isStream = true) :
    procNew keep pc s c =
      { s with filtered := s.filtered ++ matchRange keep s.processed (min (s.allLen - s.processed) c),
               processed := s.processed + min (s.allLen - s.processed) c } := by
  dsimp only [procNew]
  by_cases h0 : s.allLen - s.processed = 0
  · rw [if_pos h0, h0, Nat.zero_min, matchRange_zero, List.append_nil, Nat.add_zero]
  · rw [if_neg h0, if_neg (by rw [hf]; exact Bool.false_ne_true), if_pos hs]

/-- A round of indexing as one record update, with what `inv_step` and `tick_spec` need of it: only `filtered` and `processed`
    change; the index stays log-below-mark; the mark moves forward, not past the messages parsed, and strictly unless the
    index is settled. -/
theorem procNew_eq {keep : Nat → Bool} (pc : Nat) {s : SC} (c : Nat) (h : Inv keep s) :
    ∃ f p, procNew keep pc s c = { s with filtered := f, processed := p } ∧
      (s.filtersActive = true → f = matchRange keep 0 p) ∧
      s.processed ≤ p ∧ p ≤ s.allLen ∧ (1 ≤ c → 1 ≤ pc → ¬ IdxSettled s → s.processed < p) := by
  have hle := h.le
  rcases Bool.eq_false_or_eq_true s.filtersActive with hfa | hfa
  case inr =>
    have hno : s.filtersActive = true → False := fun hx => Bool.false_ne_true (hfa.symm.trans hx)
    exact ⟨_, _, procNew_unfiltered keep pc s c hfa hle, fun hx => (hno hx).elim,
      hle, Nat.le_refl _, fun _ _ hn => absurd (fun hx => (hno hx).elim) hn⟩
  case inl =>
    -- the chunk examined: `n` messages from the mark on, inside what is parsed; `0 < n` while something is left
    have hn1 := Nat.add_le_of_le_sub' hle (Nat.min_le_left (s.allLen - s.processed) c)
    have hn2 := fun (hc : 1 ≤ c) (hne : s.processed ≠ s.allLen) =>
      Nat.lt_min.2 ⟨Nat.sub_pos_of_lt (Nat.lt_of_le_of_ne hle hne), hc⟩
    have hns : ¬ IdxSettled s → s.processed ≠ s.allLen := fun hn he => hn fun _ => .inl he
    rcases Bool.eq_false_or_eq_true s.isStream with hst | hst
    case inl =>
      rw [procNew_stream keep pc s c hfa hst]
      generalize min (s.allLen - s.processed) c = n at hn1 hn2
      exact ⟨_, _, rfl, fun _ => by rw [matchRange_add, ← h.idx hfa, Nat.zero_add], Nat.le_add_right _ _, hn1,
        fun hc _ hs => Nat.lt_add_of_pos_right (hn2 hc (hns hs))⟩
    case inr =>
      dsimp only [procNew]
      by_cases h0 : s.allLen - s.processed = 0
      · rw [if_pos h0]
        exact ⟨_, _, rfl, fun _ => h.idx hfa, Nat.le_refl _, hle,
          fun _ _ hs => absurd (Nat.le_antisymm hle (Nat.le_of_sub_eq_zero h0)) (hns hs)⟩
      rw [if_neg h0, if_neg (by rw [hfa]; exact Bool.false_ne_true), if_neg (by rw [hst]; exact Bool.false_ne_true)]
      generalize min (s.allLen - s.processed) c = n at hn1 hn2
      obtain ⟨r1, r2, r3, r4⟩ := queryLoop_spec keep s.processed n (min c pc) s.stop (n + 1) 0 s.filtered
        (h.idx hfa) (Nat.zero_le n)
      refine ⟨_, _, rfl, fun _ => r1, r2, Nat.le_trans r3 hn1,
        fun hc hpc hs => r4 (Nat.succ_pos _) ?_ (hn2 hc (hns hs)) (Nat.le_min.2 ⟨hc, hpc⟩)⟩
      -- a query that is not settled still wants matches
      exact Nat.lt_of_not_le fun hx => hs fun _ => .inr ⟨hst, hx⟩

/-- The two events that only add to the stream (`d` messages arrive; a round indexes up to `p`) keep `Inv` for one reason:
    they touch `filtered`, `processed`, `allLen` only, and what the sender sees grows at its end because the mark and the
    number of messages only move forward; so the window facts carry over. -/
theorem Inv.grow {keep : Nat → Bool} {s : SC} (h : Inv keep s) (f : List Nat) (p d : Nat)
    (hidx : s.filtersActive = true → f = matchRange keep 0 p) (hp : s.processed ≤ p) (hle : p ≤ s.allLen + d) :
    Inv keep { s with filtered := f, processed := p, allLen := s.allLen + d } := by
  obtain ⟨ext, he⟩ : ∃ ext, ({ s with filtered := f, processed := p, allLen := s.allLen + d } : SC).seqNow = s.seqNow ++ ext := by
    dsimp only [SC.seqNow]
    split
    · rename_i hfa
      exact ⟨_, by rw [hidx hfa, h.idx hfa]; exact matchRange_prefix keep _ _ hp⟩
    · exact ⟨_, List.range_add⟩
  refine ⟨hidx, hle, h.sentLo, ?_, ?_⟩
  · rw [he]
    exact h.sentHi.imp id fun h' => ⟨h'.1, Nat.le_trans h'.2 (by rw [List.length_append]; exact Nat.le_add_right _ _)⟩
  · rw [he]
    refine h.del.trans ?_
    -- nothing beyond what the sender saw before has been sent
    rcases h.sentHi with h | ⟨_, h'⟩
    · rw [h, List.drop_take, List.drop_take, Nat.sub_self, List.take_zero, List.take_zero]
    · rw [List.take_append_of_le_length h']

/-- for `Inv.del` under `send`: positions `[a, e)` already delivered followed by `[e, m)` sent now are `[a, m)` -/
theorem drop_take_splice {α} (L : List α) {a e m : Nat} (h : a ≤ e) (hm : e ≤ m) :
    (L.take e).drop a ++ (L.take m).drop e = (L.take m).drop a := by
  have he : L.take e = (L.take m).take e := by rw [List.take_take, Nat.min_eq_left hm]
  obtain ⟨d, rfl⟩ := Nat.exists_eq_add_of_le h
  rw [he, List.drop_take, Nat.add_sub_cancel_left, ← List.drop_drop, List.take_append_drop]

/-- a sending step touches only what has been delivered and how far, and leaves nothing pending -/
theorem send_spec (s : SC) :
    ∃ d e, send s = { s with delivered := d, sentEnd := e } ∧ ¬ (e < s.stop ∧ e < s.seqNow.length) := by
  fun_cases send s with
  | case1 => exact ⟨_, _, rfl, fun h => Nat.lt_irrefl _ (Nat.lt_min.2 ⟨h.2, h.1⟩)⟩
  | case2 _ hc => exact ⟨_, _, rfl, hc⟩

theorem inv_send {keep : Nat → Bool} {s : SC} (h : Inv keep s) : Inv keep (send s) := by
  fun_cases send s with
  | case1 _ hc =>
    -- something is pending, up to `min len stop`
    have hlt : s.sentEnd < min s.seqNow.length s.stop := Nat.lt_min.2 ⟨hc.2, hc.1⟩
    refine ⟨h.idx, h.le, Nat.le_trans h.sentLo (Nat.le_of_lt hlt), .inr ⟨Nat.min_le_right _ _, Nat.min_le_left _ _⟩, ?_⟩
    show s.delivered ++ _ = _
    rw [h.del]; exact drop_take_splice _ h.sentLo (Nat.le_of_lt hlt)
  | case2 => exact h

theorem inv_step {keep : Nat → Bool} (pc : Nat) {s : SC} (e : Ev) (h : Inv keep s) : Inv keep (stepEv keep pc s e) := by
  cases e with
  | arrive n => exact h.grow _ _ n h.idx (Nat.le_refl _) (Nat.le_trans h.le (Nat.le_add_right _ n))
  | tick c =>
    obtain ⟨f, p, e, p1, p2, p3, _⟩ := procNew_eq pc c h
    exact inv_send (e ▸ h.grow f p 0 p1 p2 p3)
  | cw a b => exact ⟨h.idx, h.le, Nat.le_refl _, .inl rfl, List.drop_take_self.symm⟩

theorem inv_run {keep : Nat → Bool} (pc : Nat) {s : SC} (evs : List Ev) (h : Inv keep s) : Inv keep (runEv keep pc s evs) :=
  List.foldlRecOn (motive := Inv keep) evs (stepEv keep pc) h fun _ hs e _ => inv_step pc e hs

/-- nothing left to send: what has been sent and what the window wants end at the same place -/
theorem sent_all {a e b n : Nat} (hhi : e = a ∨ (e ≤ b ∧ e ≤ n)) (hs : ¬ (e < b ∧ e < n)) :
    min e n - a = min b n - a := by
  -- nothing pending: the sender is at or behind the end of what the window can get
  have hmin : min b n ≤ e := Nat.not_lt.1 fun h => hs (Nat.lt_min.1 h)
  rcases hhi with rfl | ⟨h1, h2⟩
  · rw [Nat.sub_eq_zero_of_le (Nat.min_le_left _ _), Nat.sub_eq_zero_of_le hmin]
  · rw [Nat.le_antisymm (Nat.le_min.2 ⟨h1, h2⟩) hmin, Nat.min_eq_left (Nat.min_le_right _ _)]

theorem settled_delivered {keep : Nat → Bool} {s : SC} (h : Inv keep s) (hs : Settled s) :
    s.delivered = ((fullSeq keep s.filtersActive s.allLen).take s.stop).drop s.start := by
  obtain ⟨hs1, hs2⟩ := hs
  -- up to `stop` the sender sees the complete stream: it sees all of it, or at least `stop` of it
  have hsee : (fullSeq keep s.filtersActive s.allLen).take s.stop = s.seqNow.take s.stop := by
    unfold fullSeq SC.seqNow
    cases hfa : s.filtersActive with
    | false => rfl
    | true =>
      rw [if_pos rfl, if_pos rfl, h.idx hfa]
      rcases hs1 hfa with hp | ⟨_, hq⟩
      · rw [hp]
      · rw [matchRange_prefix keep s.processed s.allLen h.le, List.take_append_of_le_length (by rw [← h.idx hfa]; exact hq)]
  -- and of that, everything the window wants has been sent
  rw [hsee, h.del, List.drop_take, List.drop_take, List.take_eq_take_iff, List.length_drop,
    Nat.sub_min_sub_right, Nat.sub_min_sub_right]
  exact sent_all h.sentHi hs2

def ticks (keep : Nat → Bool) (pc c : Nat) : Nat → SC → SC
  | 0, s => s
  | k + 1, s => ticks keep pc c k (stepEv keep pc s (.tick c))

theorem tick_spec {keep : Nat → Bool} (pc c : Nat) {s : SC} (h : Inv keep s) :
    ∃ f p d e, stepEv keep pc s (.tick c) = { s with filtered := f, processed := p, delivered := d, sentEnd := e } ∧
      (IdxSettled s → Settled (stepEv keep pc s (.tick c))) ∧ (1 ≤ c → 1 ≤ pc → ¬ IdxSettled s → s.processed < p) := by
  obtain ⟨f, p, e, p1, p2, p3, p4⟩ := procNew_eq pc c h
  obtain ⟨d, e', hs, hnp⟩ := send_spec (procNew keep pc s c)
  rw [show stepEv keep pc s (.tick c) = send (procNew keep pc s c) from rfl, hs]
  rw [e] at hnp ⊢
  refine ⟨f, p, d, e', rfl, fun hs => ⟨fun hfa => ?_, hnp⟩, p4⟩
  -- the round found nothing new to index, or the query had enough before
  rcases hs hfa with hp | ⟨hq, hl⟩
  · exact .inl (Nat.le_antisymm p3 (hp ▸ p2))
  · refine .inr ⟨hq, show s.stop ≤ f.length from ?_⟩
    rw [p1 hfa, matchRange_prefix keep _ _ p2, ← h.idx hfa, List.length_append]
    exact Nat.le_add_right_of_le hl

/-- `C16_eventually_settles` from any state of the invariant: at most one round per message still to index, and one more -/
theorem ticks_deliver (keep : Nat → Bool) (pc c : Nat) (hc : 1 ≤ c) (hpc : 1 ≤ pc) :
    ∀ (n : Nat) (s : SC), Inv keep s → s.allLen - s.processed < n →
      ∃ k, (ticks keep pc c k s).delivered = ((fullSeq keep s.filtersActive s.allLen).take s.stop).drop s.start := by
  intro n
  induction n with
  | zero => intro s _ hm; exact absurd hm (Nat.not_lt_zero _)
  | succ n ih =>
    intro s h hm
    obtain ⟨f, p, d, e, he, hset, hprog⟩ := tick_spec pc c h
    have hi := inv_step pc (.tick c) h
    rw [he] at hi hset
    by_cases hs : IdxSettled s
    · refine ⟨1, ?_⟩
      show (stepEv keep pc s (.tick c)).delivered = _
      rw [he]; exact settled_delivered hi (hset hs)
    · have hp := hprog hc hpc hs
      have hle : p ≤ s.allLen := hi.le
      obtain ⟨k, hk⟩ := ih _ hi (show s.allLen - p < n from
        Nat.lt_of_lt_of_le (Nat.sub_lt_sub_left (Nat.lt_of_lt_of_le hp hle) hp) (Nat.le_of_lt_succ hm))
      refine ⟨k + 1, ?_⟩
      show (ticks keep pc c k (stepEv keep pc s (.tick c))).delivered = _
      rw [he]; exact hk

end Inc
