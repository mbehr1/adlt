import Adlt.Remote.Model
/-! Lemmas about windows, the filtered sequence and search paging of the remote model (C16); `hitsFrom` and `allHits`, in which
    the paging property is stated, are defined here. -/
namespace Rem

theorem window_eq (seq : List Nat) (a b : Nat) : window seq a b = (seq.drop a).take (b - a) := by
  rw [window, List.drop_take]

theorem window_getElem? (seq : List Nat) (a b i : Nat) :
    (window seq a b)[i]? = if a + i < b then seq[a + i]? else none := by
  simp only [window, List.getElem?_drop, List.getElem?_take]

theorem window_length (seq : List Nat) (a b : Nat) : (window seq a b).length = min b seq.length - a := by
  rw [window, List.length_drop, List.length_take]

theorem seq_stream_mem (s : Stream) (ms : List RMsg) (n q : Nat) (hf : s.filters.isEmpty = false) (hs : s.isStream = true) :
    q ∈ s.seq ms n ↔ ∃ m, ms[q]? = some m ∧ keeps s.filters m = true := by
  simp only [Stream.seq, hf, hs, Bool.false_eq_true, if_false, if_true, List.mem_map, List.mem_filter,
    List.mem_zipIdx_iff_getElem?]
  constructor
  · rintro ⟨⟨m, i⟩, ⟨h1, h2⟩, rfl⟩; exact ⟨m, h1, h2⟩
  · rintro ⟨m, h1, h2⟩; exact ⟨(m, q), ⟨h1, h2⟩, rfl⟩

theorem seq_sorted (s : Stream) (ms : List RMsg) (n : Nat) : (s.seq ms n).Pairwise (· < ·) := by
  -- whatever is selected, its positions are a sublist of `0, 1, …`
  have hsub : ∀ p : RMsg × Nat → Bool, ((ms.zipIdx.filter p).map (·.2)).Pairwise (· < ·) := fun p =>
    (show (ms.zipIdx.map (·.2)).Pairwise (· < ·) by
      rw [show ms.zipIdx.map (·.2) = List.range' 0 ms.length from List.zipIdx_map_snd 0 ms]
      exact List.pairwise_lt_range').sublist (List.filter_sublist.map _)
  fun_cases Stream.seq s ms n
  · exact List.pairwise_lt_range
  · exact hsub _
  · exact (hsub _).sublist (List.take_sublist _ _)

theorem seq_unfiltered (s : Stream) (ms : List RMsg) (n : Nat) (hf : s.filters.isEmpty = true) :
    s.seq ms n = List.range ms.length := by
  simp [Stream.seq, hf]

/-- stream positions `i, i+1, …` of the elements of `rest` that match -/
def hitsFrom (ms : List RMsg) (fs : FSpec) : Nat → List Nat → List Nat
  | _, [] => []
  | i, p :: t => if hitAt ms fs p then i :: hitsFrom ms fs (i + 1) t else hitsFrom ms fs (i + 1) t

/-- `go` stops after `d` elements of `rest`; it stops early only with a full page -/
theorem search_go_spec (ms : List RMsg) (fs : FSpec) (maxR : Nat) (rest : List Nat) (i : Nat) (acc : List Nat) :
    ∃ d, (search.go ms fs maxR i rest acc).2 = i + d ∧ d ≤ rest.length ∧
      (search.go ms fs maxR i rest acc).1 ++ hitsFrom ms fs (search.go ms fs maxR i rest acc).2 (rest.drop d)
        = acc.reverse ++ hitsFrom ms fs i rest ∧
      (d < rest.length → maxR ≤ (search.go ms fs maxR i rest acc).1.length) := by
  fun_induction search.go ms fs maxR i rest acc with
  | case1 => exact ⟨0, rfl, Nat.le_refl _, rfl, fun h => absurd h (Nat.lt_irrefl _)⟩
  | case2 i acc p t hh hfull =>
    exact ⟨1, rfl, Nat.succ_le_succ (Nat.zero_le _), by simp [hitsFrom, hh], fun _ => by simpa using hfull⟩
  | case3 i acc p t hh _ ih | case4 i acc p t hh ih =>
    -- the loop goes on behind `p`
    obtain ⟨d, h1, h2, h3, h4⟩ := ih
    exact ⟨d + 1, h1.trans (by rw [Nat.add_assoc, Nat.add_comm 1 d]), Nat.succ_le_succ h2,
      h3.trans (by simp [hitsFrom, hh]), fun h => h4 (Nat.lt_of_succ_lt_succ h)⟩

/-- all matching stream positions from `i` on -/
def allHits (seq : List Nat) (ms : List RMsg) (fs : FSpec) (i : Nat) : List Nat := hitsFrom ms fs i (seq.drop i)

end Rem
