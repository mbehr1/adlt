import Adlt.Remote.Model
import Adlt.Remote.TimeLookup
/-! The command dispatcher as a state machine: one reply per command; which ids are usable when. -/
namespace Rem

inductive Cmd where
  | openOk | openBad | close | pause | resume
  | stream (isStream : Bool) (fs : FSpec) (start stop : Nat)
  | streamBad                                  -- stream / query with malformed JSON
  | stop (k : Nat)                             -- k = canonical id (0 = an id that was never announced)
  | changeWindow (k : Nat) (start stop : Nat)
  | changeWindowBad (k : Nat)
  | search (k : Nat) (fs : FSpec) (startIdx maxResults : Nat)
  | searchNoBody (k : Nat)
  | lookupIndex (k : Nat) (index : Nat)
  | lookupTime (k : Nat) (ms : Nat)
  | lookupBad (k : Nat)
  | noId (verb : Nat)                          -- stop / search / … without a parsable id
  | fs (k : Nat)                               -- file-system request number k of the harness table
  | pluginCmd (k : Nat)                        -- plugin command (no plugin is loaded: always refused)
  | junk
deriving Repr

inductive Reply where
  | ok (detail : String)
  | err
  | unknown
deriving Repr, DecidableEq

structure Srv where
  file : Option (List RMsg) := none    -- open file: its messages
  streams : List Stream := []          -- live streams (ids usable)
  nextK : Nat := 1                     -- next canonical id
  delivered : List (Nat × List Nat) := []   -- per announced id: the file positions the client eventually receives
  queries : List Nat := []             -- the announced ids that belong to queries (they get an end-of-query marker)
deriving Repr

def Srv.find (s : Srv) (k : Nat) : Option Stream := s.streams.find? (·.k == k)

def showList (l : List Nat) : String := "[" ++ ",".intercalate (l.map toString) ++ "]"

def Srv.step (s : Srv) (files : List RMsg) : Cmd → Srv × Reply
  | .openOk =>
    -- a file set without any DLT message is refused ("cannot open files or files contain no DLT messages")
    if s.file.isSome || files.isEmpty then (s, .err) else ({ s with file := some files, streams := [] }, .ok "open")
  | .openBad => (s, .err)
  | .close => if s.file.isSome then ({ s with file := none, streams := [] }, .ok "close") else (s, .err)
  | .pause => if s.file.isSome then (s, .ok "pause") else (s, .err)
  | .resume => if s.file.isSome then (s, .ok "resume") else (s, .err)
  | .streamBad => (s, .err)
  | .stream isStream fs start stop =>
    match s.file with
    | none => (s, .err)
    | some ms =>
      let st : Stream := { k := s.nextK, isStream := isStream, filters := fs, start := start, stop := stop }
      -- a query is finished (and its id gone) as soon as its window is delivered or everything is processed
      ({ s with streams := if isStream then s.streams ++ [st] else s.streams, nextK := s.nextK + 1,
                queries := if isStream then s.queries else s.queries ++ [s.nextK],
                delivered := s.delivered ++ [(s.nextK, window (st.seq ms stop) start stop)] },
       .ok s!"id{s.nextK}")
  | .stop k =>
    match s.file, s.find k with
    | some _, some _ => ({ s with streams := s.streams.filter (·.k != k) }, .ok "stop")
    | _, _ => (s, .err)
  | .changeWindow k start stop =>
    match s.file, s.find k with
    | some ms, some st =>
      let st' : Stream := { st with k := s.nextK, start := start, stop := max st.stop stop }
      -- the collected matches of a query never shrink: the largest `stop` a query has ever had is kept in `Stream.stop`,
      -- here simply the maximum of the stops announced so far for that stream
      ({ s with streams := s.streams.map (fun x => if x.k == k then st' else x), nextK := s.nextK + 1,
                delivered := s.delivered ++ [(s.nextK, window (st'.seq ms st'.stop) start stop)] },
       .ok s!"id{s.nextK}")
    | _, _ => (s, .err)
  | .changeWindowBad _ => (s, .err)
  | .search k fs startIdx maxResults =>
    match s.file, s.find k with
    | some ms, some st =>
      let r := search (st.seq ms st.stop) ms fs startIdx maxResults
      (s, .ok s!"{showList r.1}->{match r.2 with | some n => toString n | none => "-"}")
    | _, _ => (s, .err)
  | .searchNoBody _ => (s, .err)
  | .lookupIndex k index =>
    match s.file, s.find k with
    | some ms, some st =>
      (match ms.findIdx? (·.index == index) with
       | some p => (s, .ok s!"pos{lowerBound (st.seq ms st.stop) p}")
       | none => (s, .err))
    | _, _ => (s, .err)
  | .lookupTime k t =>
    match s.file, s.find k with
    | some ms, some st =>
      -- first file position whose time (`RMsg.time`) is not before t
      let p := timePos ms (t * 1000)
      (s, .ok s!"pos{lowerBound (st.seq ms st.stop) p}")
    | _, _ => (s, .err)
  | .lookupBad _ => (s, .err)
  | .noId _ => (s, .err)
  -- requests 4,5,6,9 of the table name an existing directory / file / archive with a known command: answered `ok:`
  -- (also when the operation itself fails, e.g. readDirectory on a file); malformed or unknown requests: `err:`
  | .fs k => (s, if k == 4 || k == 5 || k == 6 || k == 9 then .ok "fs" else .err)
  | .pluginCmd _ => (s, .err)
  | .junk => (s, .unknown)

def Srv.run (files : List RMsg) : Srv → List Cmd → List Reply × Srv
  | s, [] => ([], s)
  | s, c :: t => let r := s.step files c; let rest := Srv.run files r.1 t; (r.2 :: rest.1, rest.2)

theorem step_stream (s : Srv) (files ms : List RMsg) (str : Bool) (fs : FSpec) (a b : Nat) (hf : s.file = some ms) :
    s.step files (.stream str fs a b) =
      ({ s with streams := if str then s.streams ++ [⟨s.nextK, str, fs, a, b⟩] else s.streams, nextK := s.nextK + 1,
                queries := if str then s.queries else s.queries ++ [s.nextK],
                delivered := s.delivered ++ [(s.nextK, window ((⟨s.nextK, str, fs, a, b⟩ : Stream).seq ms b) a b)] },
       .ok s!"id{s.nextK}") := by
  -- `Srv.step.eq_def` (here and below), not `Srv.step`: one verb is looked at, the 21 per-verb equations need not be generated
  simp only [Srv.step.eq_def, hf]

/-- what a command can do to the open file, the live streams and the next id: nothing, or one of five changes -/
inductive Change (s : Srv) (files : List RMsg) : Cmd → Srv → Prop
  | same (c) : Change s files c s
  | opened (s' : Srv) (hs : s'.streams = []) (hn : s'.nextK = s.nextK) : Change s files .openOk s'
  | closed (s' : Srv) (hs : s'.streams = []) (hn : s'.nextK = s.nextK) : Change s files .close s'
  | announced (str fs a b) (s' : Srv) (ho : s.file.isSome) (hf : s'.file = s.file) (hn : s'.nextK = s.nextK + 1)
      (hs : s'.streams = if str then s.streams ++ [⟨s.nextK, str, fs, a, b⟩] else s.streams) : Change s files (.stream str fs a b) s'
  | stopped (k) (s' : Srv) (hf : s'.file = s.file) (hn : s'.nextK = s.nextK) (hs : s'.streams = s.streams.filter (·.k != k)) :
      Change s files (.stop k) s'
  | rewindowed (k a b) (st : Stream) (s' : Srv) (hf : s'.file = s.file) (hn : s'.nextK = s.nextK + 1)
      (hs : s'.streams = s.streams.map fun x => if x.k == k then { st with k := s.nextK, start := a, stop := max st.stop b } else x) :
      Change s files (.changeWindow k a b) s'

theorem step_change (s : Srv) (files : List RMsg) (c : Cmd) : Change s files c (s.step files c).1 := by
  -- the 31 paths through `Srv.step`, numbered in the order of its text; all but these five answer without touching the state
  fun_cases Srv.step s files c with
  | case2 => exact .opened _ rfl rfl
  | case4 => exact .closed _ rfl rfl
  | case12 str fs a b ms hms => exact .announced str fs a b _ (by rw [hms]; rfl) rfl rfl rfl
  | case13 k => exact .stopped k _ rfl rfl rfl   -- a file is open and the id is live
  | case15 k a b => exact .rewindowed k a b _ _ rfl rfl rfl
  | _ => exact .same _

theorem step_file (s : Srv) (files : List RMsg) (c : Cmd) (h1 : c ≠ .openOk) (h2 : c ≠ .close) :
    (s.step files c).1.file = s.file := by
  have h := step_change s files c
  generalize (s.step files c).1 = s' at h
  cases h with
  | same => rfl
  | opened => exact absurd rfl h1
  | closed => exact absurd rfl h2
  | announced _ _ _ _ _ _ hf => exact hf
  | stopped _ _ hf => exact hf
  | rewindowed _ _ _ _ _ hf => exact hf

theorem open_iff (s : Srv) (files : List RMsg) (c : Cmd) :
    ((s.step files c).1.file.isSome) =
      (match c, (s.step files c).2 with
       | .openOk, .ok _ => true
       | .close, .ok _ => false
       | _, _ => s.file.isSome) := by
  by_cases h1 : c = .openOk
  · subst h1; simp only [Srv.step.eq_def]; split <;> rfl
  by_cases h2 : c = .close
  · subst h2; simp only [Srv.step.eq_def]; split <;> rfl
  -- any other command leaves the file as it is, and the `match` falls through
  rw [step_file s files c h1 h2]
  split
  · exact absurd rfl h1
  · exact absurd rfl h2
  · rfl

theorem open_ok_iff (s : Srv) (files : List RMsg) :
    (s.step files .openOk).2 = .ok "open" ↔ (s.file.isSome = false ∧ files ≠ []) := by
  cases hf : s.file <;> cases files <;> simp [Srv.step.eq_def, hf]

theorem close_ok_iff (s : Srv) (files : List RMsg) :
    ((s.step files .close).2 = .ok "close" ↔ s.file.isSome) ∧
    (s.file.isSome → (s.step files .close).1.streams = []) := by
  simp only [Srv.step.eq_def]; split <;> simp_all

/-- ids are announced in increasing order -/
theorem nextK_mono (s : Srv) (files : List RMsg) (c : Cmd) : s.nextK ≤ (s.step files c).1.nextK := by
  have h := step_change s files c
  generalize (s.step files c).1 = s' at h
  cases h with
  | same => exact Nat.le_refl _
  | opened _ _ hn | closed _ _ hn | stopped _ _ _ hn => exact Nat.le_of_eq hn.symm
  | announced _ _ _ _ _ _ _ hn | rewindowed _ _ _ _ _ _ hn => rw [hn]; exact Nat.le_succ _

theorem open_after_close (s : Srv) (files : List RMsg) (h : s.file.isSome) (hf : files ≠ []) :
    ((s.step files .close).1.step files .openOk).2 = .ok "open" :=
  (open_ok_iff _ files).2 ⟨by rw [open_iff, (close_ok_iff s files).1.2 h], hf⟩

/-- live ids are below the next id: what makes a new id fresh -/
def Srv.Inv (s : Srv) : Prop := ∀ st ∈ s.streams, st.k < s.nextK

theorem find_filter_ne (l : List Stream) (k j : Nat) :
    (l.filter (·.k != k)).find? (·.k == j) = if j = k then none else l.find? (·.k == j) := by
  rw [List.find?_filter]
  split
  · rename_i h
    exact List.find?_eq_none.2 fun x _ => by simp [h]
  · rename_i h
    -- a stream with id `j` is not one with id `k`
    congr 1; funext x
    cases hx : x.k == j
    · simp
    · simpa [eq_of_beq hx] using h

theorem find_append_fresh (l : List Stream) (st : Stream) (j : Nat) :
    (l ++ [st]).find? (·.k == j) = (l.find? (·.k == j)).or (if st.k == j then some st else none) := by
  rw [List.find?_append, List.find?_cons]
  cases h : (st.k == j) <;> rfl

theorem find_map_replace (l : List Stream) (k j : Nat) (st' : Stream) (hj : j ≠ k) (hj' : j ≠ st'.k) :
    (l.map (fun x => if x.k == k then st' else x)).find? (·.k == j) = l.find? (·.k == j) := by
  induction l with
  | nil => rfl
  | cons x t ih =>
    rw [List.map_cons, List.find?_cons, List.find?_cons, ih]
    -- a stream that is replaced and its replacement both have other ids than `j`
    by_cases hx : (x.k == k) = true
    · rw [if_pos hx, beq_false_of_ne (Ne.symm hj'), eq_of_beq hx, beq_false_of_ne (Ne.symm hj)]
    · rw [if_neg hx]

theorem find_map_replaced_gone (l : List Stream) (k : Nat) (st' : Stream) (hk : st'.k ≠ k) :
    (l.map (fun x => if x.k == k then st' else x)).find? (·.k == k) = none := by
  rw [List.find?_eq_none]
  intro y hy
  obtain ⟨x, _, rfl⟩ := List.mem_map.1 hy
  split
  · exact fun h => hk (eq_of_beq h)
  · assumption

theorem step_inv (s : Srv) (files : List RMsg) (c : Cmd) (h : s.Inv) : (s.step files c).1.Inv := by
  have hc := step_change s files c
  generalize (s.step files c).1 = s' at hc
  unfold Srv.Inv at *
  cases hc with
  | same => exact h
  | opened _ hs | closed _ hs => rw [hs]; intro st hst; cases hst
  | announced str fs a b _ _ _ hn hs =>
    rw [hn, hs]
    intro st hst
    split at hst
    · rcases List.mem_append.1 hst with h1 | h1
      · exact Nat.lt_succ_of_lt (h st h1)
      · rw [List.mem_singleton.1 h1]; exact Nat.lt_succ_self _
    · exact Nat.lt_succ_of_lt (h st hst)
  | stopped k _ _ hn hs => rw [hn, hs]; exact fun st hst => h st (List.mem_filter.1 hst).1
  | rewindowed k a b st _ _ hn hs =>
    rw [hn, hs]
    intro x hx
    obtain ⟨y, hy, rfl⟩ := List.mem_map.1 hx
    split
    · exact Nat.lt_succ_self _
    · exact Nat.lt_succ_of_lt (h y hy)

/-- not "the file is closed" but the invariant "no open file ⇒ no live stream" (so that `stop` may dispatch on the id alone) -/
def Srv.Closed (s : Srv) : Prop := s.file = none → s.streams = []

theorem step_closed (s : Srv) (files : List RMsg) (c : Cmd) (h : s.Closed) : (s.step files c).1.Closed := by
  have hc := step_change s files c
  generalize (s.step files c).1 = s' at hc
  unfold Srv.Closed at *
  cases hc with
  | same => exact h
  | opened _ hs | closed _ hs => exact fun _ => hs
  | announced _ _ _ _ _ ho hf => rw [hf]; intro hn; rw [hn] at ho; cases ho
  | stopped _ _ hf _ hs | rewindowed _ _ _ _ _ hf _ hs => rw [hf, hs]; intro hn; rw [h hn]; rfl

theorem run_keeps {P : Srv → Prop} (files : List RMsg) (hP : ∀ s c, P s → P (s.step files c).1) (s : Srv) (cs : List Cmd)
    (h : P s) : P (Srv.run files s cs).2 := by
  induction cs generalizing s with
  | nil => exact h
  | cons c t ih => exact ih _ (hP s c h)

/-- without stray streams (`Closed`) `stop k` dispatches on the id alone -/
theorem step_stop (s : Srv) (files : List RMsg) (k : Nat) (hc : s.Closed) :
    s.step files (.stop k) =
      if (s.find k).isSome then ({ s with streams := s.streams.filter (·.k != k) }, .ok "stop") else (s, .err) := by
  simp only [Srv.step.eq_def]
  split
  · rename_i h; rw [h]; rfl
  · rename_i hno
    cases hk : s.find k with
    | none => rfl
    | some st =>
      cases hf : s.file with
      | none => rw [Srv.find, hc hf] at hk; cases hk
      | some ms => exact (hno ms st hf hk).elim

theorem find_preserved (s : Srv) (files : List RMsg) (c : Cmd) (k : Nat) (hk : k < s.nextK)
    (h1 : c ≠ .stop k) (h2 : c ≠ .close) (h3 : c ≠ .openOk) (h4 : ∀ a b, c ≠ .changeWindow k a b) :
    (s.step files c).1.find k = s.find k := by
  have hc := step_change s files c
  generalize (s.step files c).1 = s' at hc
  unfold Srv.find
  cases hc with
  | same => rfl
  | opened => exact absurd rfl h3
  | closed => exact absurd rfl h2
  | announced str _ _ _ _ _ _ _ hs =>
    rw [hs]
    split
    · rw [find_append_fresh, beq_false_of_ne (Nat.ne_of_gt hk)]; exact Option.or_none
    · rfl
  | stopped j _ _ _ hs =>
    have : k ≠ j := fun e => h1 (by rw [e])
    rw [hs, find_filter_ne, if_neg this]
  | rewindowed j a b st _ _ _ hs =>
    rw [hs]
    exact find_map_replace s.streams j k _ (fun e => h4 a b (by rw [e])) (Nat.ne_of_lt hk)

end Rem
