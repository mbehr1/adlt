import Adlt.Ft.Model
/-! What the functions of the reassembly model compute. -/
namespace Ftm

theorem learn_id (t : Ft) (pkg len : Nat) (h : t.bufferSize ≠ 0) : t.learn pkg len = t := by
  unfold Ft.learn
  rw [beq_false_of_ne h, Bool.and_false]
  rfl

theorem active_iff (t : Ft) : t.active = true ↔ t.state = .started ∨ t.state = .missingStart := by
  unfold Ft.active
  rw [Bool.or_eq_true, beq_iff_eq, beq_iff_eq]

/-- `add_flda` after its first step; `u` is the transfer with the buffer size learnt -/
theorem addFlda_eq (t u : Ft) (pkg : Nat) (p : List Nat) (hu : t.learn pkg p.length = u) :
    t.addFlda pkg p =
      if u.active then
        if pkg < u.nextPackage then u
        else ((if ({ u with recvdPackages := u.recvdPackages + 1 } : Ft).accepts pkg p.length
               then ({ u with recvdPackages := u.recvdPackages + 1 } : Ft).take pkg p
               else { u with recvdPackages := u.recvdPackages + 1 }) : Ft).checkFinished false
      else u := by
  subst hu; rfl

theorem eqNr_iff (nr : Option Nat) (x : Nat) : eqNr nr x = true ↔ nr = some x := by
  cases nr with
  | none => exact ⟨fun h => (nomatch h), fun h => (nomatch h)⟩
  | some n => simp only [eqNr, beq_iff_eq, Option.some.injEq]; exact eq_comm

theorem accepts_iff (t : Ft) (pkg len : Nat) :
    t.accepts pkg len = true ↔
      pkg = t.nextPackage ∧ (len = t.bufferSize ∨ (t.nrPackages = some t.nextPackage ∧ len < t.bufferSize)) := by
  unfold Ft.accepts
  simp only [Bool.and_eq_true, Bool.or_eq_true, beq_iff_eq, decide_eq_true_eq, eqNr_iff]

theorem addFlda_accept (t : Ft) (pkg : Nat) (p : List Nat) (hb : t.bufferSize ≠ 0) (hst : t.state = .started)
    (hnext : t.nextPackage = pkg)
    (hlen : p.length = t.bufferSize ∨ (t.nrPackages = some pkg ∧ p.length < t.bufferSize)) :
    t.addFlda pkg p = (({ t with recvdPackages := t.recvdPackages + 1 } : Ft).take pkg p).checkFinished false := by
  subst hnext
  rw [addFlda_eq t t _ p (learn_id t _ p.length hb), if_pos ((active_iff t).mpr (.inl hst)), if_neg (Nat.lt_irrefl _),
    if_pos ((accepts_iff { t with recvdPackages := t.recvdPackages + 1 } _ _).mpr ⟨rfl, hlen⟩)]

/-- `check_finished` after a package, its tests as propositions. It writes nothing but the state: `fileSize` is only
    ever set to the value it has. -/
theorem checkFinished_false_some (t : Ft) (n : Nat) (hnr : t.nrPackages = some n) :
    t.checkFinished false =
      { t with state := if n < t.nextPackage ∧ t.fileSize = t.recvdPayload then .complete
                        else if n ≤ t.recvdPackages then .incomplete else t.state } := by
  unfold Ft.checkFinished gtNr geNr
  rw [if_neg Bool.false_ne_true, hnr]
  simp only [Bool.and_eq_true, decide_eq_true_eq, beq_iff_eq, GT.gt, GE.ge]
  by_cases h1 : n < t.nextPackage ∧ t.fileSize = t.recvdPayload
  · rw [if_pos h1, if_pos h1, h1.2]
  · rw [if_neg h1, if_neg h1]
    by_cases h2 : n ≤ t.recvdPackages
    · rw [if_pos h2, if_pos h2]
    · rw [if_neg h2, if_neg h2, ← hnr]

theorem checkFinished_false_none (t : Ft) (hnr : t.nrPackages = none) : t.checkFinished false = t := by
  unfold Ft.checkFinished gtNr geNr
  rw [if_neg Bool.false_ne_true, hnr]
  rfl

end Ftm
