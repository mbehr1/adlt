import Adlt.Ft.Lemmas
/-! C17 soundness: a transfer reported complete has accepted exactly the packages 1, 2, …, k in this order,
    nothing else was counted in between, and the stored data is their concatenation. -/
namespace Ftm

/-- `slack = 0`: between two messages; `slack = 1`: inside `add_flda` after the package was counted -/
structure FInv (slack : Nat) (t : Ft) : Prop where
  nextPos : 1 ≤ t.nextPackage
  nums : t.accepted.map (·.1) = List.range' 1 (t.nextPackage - 1)
  data : t.keep = true → t.data = (t.accepted.map (·.2)).flatten
  payl : t.recvdPayload = ((t.accepted.map (·.2)).flatten).length
  cnt : t.nextPackage - 1 ≤ t.recvdPackages
  act : t.state = .started → ∃ n, t.nrPackages = some n ∧ t.recvdPackages < n + slack
  done : t.state = .complete → t.recvdPackages = t.nextPackage - 1 ∧
    ∀ n, t.nrPackages = some n → t.nextPackage = n + 1 ∧ t.fileSize = t.recvdPayload
  miss : t.state = .missingStart → t.nrPackages = none

/-- entering a final state: only `done` is left to show; `s`, `f` are what `check_finished` writes -/
theorem FInv.settle {sl sl' : Nat} {t : Ft} (h : FInv sl t) (s : FtState) (f : Nat) (hfin : s = .complete ∨ s = .incomplete)
    (hdone : s = .complete → t.recvdPackages = t.nextPackage - 1 ∧
      ∀ n, t.nrPackages = some n → t.nextPackage = n + 1 ∧ f = t.recvdPayload) :
    FInv sl' { t with state := s, fileSize := f } :=
  { h with
    act := fun e => by rcases hfin with rfl | rfl <;> cases e
    done := hdone
    miss := fun e => by rcases hfin with rfl | rfl <;> cases e }

theorem learn_inv (t : Ft) (pkg len : Nat) (h : FInv 0 t) : FInv 0 (t.learn pkg len) := by
  unfold Ft.learn; split
  · exact { h with }
  · exact h

theorem checkFinished_false_inv (t : Ft) (h : FInv 1 t) (hact : t.active = true) :
    FInv 0 (t.checkFinished false) := by
  rcases (active_iff t).mp hact with hs | hs
  · obtain ⟨n, hnr, hlt⟩ := h.act hs
    rw [checkFinished_false_some t n hnr]
    by_cases h1 : n < t.nextPackage ∧ t.fileSize = t.recvdPayload
    · rw [if_pos h1]
      -- `nextPackage - 1 ≤ recvdPackages < n + 1 ≤ nextPackage`: the counters meet at `n`
      have hle : t.nextPackage ≤ n + 1 := Nat.sub_le_iff_le_add.mp (Nat.le_of_lt_succ (Nat.lt_of_le_of_lt h.cnt hlt))
      exact h.settle .complete t.fileSize (.inl rfl) fun _ =>
        ⟨Nat.le_antisymm (Nat.le_sub_one_of_lt (Nat.lt_of_lt_of_le hlt h1.1)) h.cnt,
          fun m hm => ⟨Option.some.inj (hnr.symm.trans hm) ▸ Nat.le_antisymm hle h1.1, h1.2⟩⟩
    · rw [if_neg h1]
      by_cases h2 : n ≤ t.recvdPackages
      · rw [if_pos h2]
        exact h.settle .incomplete t.fileSize (.inr rfl) (fun e => nomatch e)
      · rw [if_neg h2]
        exact { h with act := fun _ => ⟨n, hnr, Nat.not_le.mp h2⟩ }
  · -- a recovered transfer has no announced number: nothing is checked
    rw [checkFinished_false_none t (h.miss hs)]
    exact { h with act := fun e => nomatch e.symm.trans hs }

theorem count_inv (t : Ft) (h : FInv 0 t) (hs : t.state ≠ .complete) :
    FInv 1 { t with recvdPackages := t.recvdPackages + 1 } :=
  { h with
    cnt := Nat.le_succ_of_le h.cnt
    act := fun hs => (h.act hs).imp fun _ hn => ⟨hn.1, Nat.succ_lt_succ hn.2⟩
    done := fun hc => absurd hc hs }

theorem take_inv (t : Ft) (pkg : Nat) (payload : List Nat) (h : FInv 1 t) (hp : pkg = t.nextPackage)
    (hc : t.nextPackage ≤ t.recvdPackages) (hs : t.state ≠ .complete) :
    FInv 1 (t.take pkg payload) :=
  { h with
    nextPos := Nat.le_add_left 1 t.nextPackage
    nums := by
      show (t.accepted ++ [(pkg, payload)]).map (·.1) = List.range' 1 (t.nextPackage + 1 - 1)
      rw [List.map_append, h.nums, hp]
      -- the new number is the next of the range
      have hr := List.range'_1_concat (s := 1) (n := t.nextPackage - 1)
      rw [Nat.add_comm 1, Nat.sub_add_cancel h.nextPos] at hr
      exact hr.symm
    data := by
      intro (hk : t.keep = true)
      show (if t.keep = true then t.data ++ payload else t.data) = ((t.accepted ++ [(pkg, payload)]).map (·.2)).flatten
      rw [if_pos hk, h.data hk, List.map_append, List.map_singleton, List.flatten_concat]
    payl := by
      show t.recvdPayload + payload.length = ((t.accepted ++ [(pkg, payload)]).map (·.2)).flatten.length
      rw [h.payl, List.map_append, List.map_singleton, List.flatten_concat, List.length_append]
    cnt := hc
    done := fun hc' => absurd hc' hs }

theorem addFlda_inv (t : Ft) (pkg : Nat) (payload : List Nat) (h : FInv 0 t) : FInv 0 (t.addFlda pkg payload) := by
  have hl := learn_inv t pkg payload.length h
  rw [addFlda_eq t _ pkg payload rfl]
  generalize t.learn pkg payload.length = u at hl ⊢
  by_cases hact : u.active = true
  · rw [if_pos hact]
    by_cases hd : pkg < u.nextPackage
    · rw [if_pos hd]; exact hl
    · rw [if_neg hd]
      have hnc : u.state ≠ .complete := fun e => by
        rw [active_iff, e] at hact
        exact hact.elim (fun e' => nomatch e') (fun e' => nomatch e')
      have h1 := count_inv u hl hnc
      by_cases hacc : ({ u with recvdPackages := u.recvdPackages + 1 } : Ft).accepts pkg payload.length = true
      · rw [if_pos hacc]
        exact checkFinished_false_inv _
          (take_inv _ pkg payload h1 ((accepts_iff _ _ _).mp hacc).1 (Nat.sub_le_iff_le_add.mp hl.cnt) hnc) hact
      · rw [if_neg hacc]
        exact checkFinished_false_inv _ h1 hact
  · rw [if_neg hact]; exact hl

theorem checkFinished_true_inv (t : Ft) (h : FInv 0 t) : FInv 0 (t.checkFinished true) := by
  unfold Ft.checkFinished
  rw [if_pos rfl]
  by_cases heq : (t.recvdPackages == t.nextPackage - 1) = true
  · rw [if_pos heq]
    by_cases hm : (t.state == .missingStart) = true
    · rw [if_pos hm]
      have hnone := h.miss (beq_iff_eq.mp hm)
      exact h.settle .complete _ (.inl rfl)
        (fun _ => ⟨beq_iff_eq.mp heq, fun _ hn => nomatch hnone.symm.trans hn⟩)
    · rw [if_neg hm]; exact h
  · rw [if_neg heq]
    exact h.settle .incomplete t.fileSize (.inr rfl) (fun e => nomatch e)

theorem fresh_inv (serial fileSize buf : Nat) (keep : Bool) (st : FtState) (nr : Option Nat)
    (hact : st = .started → ∃ n, nr = some n ∧ 0 < n) (hmiss : st = .missingStart → nr = none) (hnc : st ≠ .complete) :
    FInv 0 { serial, state := st, fileSize, nrPackages := nr, bufferSize := buf, keep := keep } :=
  { nextPos := Nat.le_refl _, nums := rfl, data := fun _ => rfl, payl := rfl, cnt := Nat.zero_le _,
    act := hact, done := fun hs => absurd hs hnc, miss := hmiss }

theorem update_inv (p : Plug) (serial : Nat) (f : Ft → Ft) (hf : ∀ t, FInv 0 t → FInv 0 (f t))
    (hp : ∀ t ∈ p.transfers, FInv 0 t) : ∀ t ∈ (p.update serial f).transfers, FInv 0 t := by
  unfold Plug.update
  cases idxGet serial p.idx with
  | none => exact hp
  | some i =>
    dsimp only
    cases ht : p.transfers[i]? with
    | none => exact hp
    | some t =>
      intro x hx
      rcases List.mem_or_eq_of_mem_set hx with h | h
      · exact hp x h
      · exact h ▸ hf t (hp t (List.mem_of_getElem? ht))

theorem step_inv (allowSave : Bool) (p : Plug) (e : Ev) (hp : ∀ t ∈ p.transfers, FInv 0 t) :
    ∀ t ∈ (p.step allowSave e).transfers, FInv 0 t := by
  cases e with
  | flst serial fileSize nr buf =>
    dsimp only [Plug.step]
    split
    · rename_i hc
      exact List.forall_mem_append.mpr ⟨hp, List.forall_mem_singleton.mpr (fresh_inv serial fileSize buf allowSave .started (some nr)
        (fun _ => ⟨nr, rfl, of_decide_eq_true (Bool.and_eq_true _ _ ▸ hc).1⟩) (fun h => nomatch h) (fun h => nomatch h))⟩
    · exact hp
  | flda serial pkg payload =>
    dsimp only [Plug.step]
    split
    · exact update_inv p serial _ (fun t h => addFlda_inv t pkg payload h) hp
    · split
      · exact List.forall_mem_append.mpr ⟨hp, List.forall_mem_singleton.mpr (addFlda_inv _ pkg payload
          (fresh_inv serial 0 0 allowSave .missingStart none (fun h => nomatch h) (fun _ => rfl) (fun h => nomatch h)))⟩
      · exact hp
  | flfi serial =>
    exact update_inv p serial _ (fun t h => checkFinished_true_inv t h) hp
  | other => exact hp

theorem run_inv (allowSave : Bool) (evs : List Ev) : ∀ t ∈ (Plug.run allowSave evs).transfers, FInv 0 t :=
  List.foldlRecOn (motive := fun p : Plug => ∀ t ∈ p.transfers, FInv 0 t) evs (Plug.step allowSave)
    (List.forall_mem_nil _) (fun p hp e _ => step_inv allowSave p e hp)

end Ftm
