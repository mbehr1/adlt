import Adlt.Ft.Model
/-! Model of the automatic saving of completed transfers (`check_auto_save`, `base_name_for_filetransfer`,
    src/plugins/file_transfer.rs): a transfer that becomes complete with data and whose announced name matches the glob is
    written to `<dir>/<base name>` unless that file exists. File names are `List Char` so that the separator argument is provable. -/
namespace Ftm

abbrev Name := List Char

/-- the parts between `/` -/
def splitSlash : Name → List Name
  | [] => [[]]
  | c :: t =>
    if c == '/' then [] :: splitSlash t
    else match splitSlash t with
      | [] => [[c]]
      | h :: r => (c :: h) :: r

def isParent (p : Name) : Bool := p == ['.', '.']
def isSkipped (p : Name) : Bool := p == [] || p == ['.']

/-- `Path::file_name()`: the last component unless it is `..` (empty parts and `.` are no components) -/
def baseName (n : Name) : Option Name :=
  match ((splitSlash n).filter fun p => !isSkipped p).reverse with
  | [] => none
  | p :: _ => if isParent p then none else some p

def invalidName (serial : Nat) : Name := ("<invalid_filename serial " ++ toString serial ++ ">").toList

/-- `base_name_for_filetransfer` -/
def targetName (serial : Nat) (n : Name) : Name := (baseName n).getD (invalidName serial)

structure Saved where
  files : List (Name × List Nat)     -- what the directory contains, in order of creation (existing files first)
deriving Repr

def Saved.has (s : Saved) (n : Name) : Bool := s.files.any (·.1 == n)

/-- `check_auto_save` for a transfer that has just become complete -/
def autoSave (globOk : Name → Bool) (s : Saved) (serial : Nat) (name : Name) (data : List Nat) : Saved :=
  if globOk name then
    let t := targetName serial name
    if s.has t then s else { files := s.files ++ [(t, data)] }
  else s

/-- run the plugin over the events; after an FLDA / FLFI that makes its transfer complete, auto-save it -/
def runAuto (globOk : Name → Bool) (nameOf : Ft → Name) (evs : List Ev) (existing : Saved) : Plug × Saved :=
  evs.foldl (fun (ps : Plug × Saved) e =>
    let p := ps.1
    let p' := p.step true e
    let serialOf : Option Nat := match e with | .flda s _ _ => some s | .flfi s => some s | _ => none
    match serialOf with
    | none => (p', ps.2)
    | some s =>
      -- the transfer the event was routed to (index from the map *before* the step; a recovered transfer is new)
      match idxGet s p.idx with
      | some i =>
        (match p.transfers[i]?, p'.transfers[i]? with
          | some b, some a =>
            if a.state == .complete && b.state != .complete then (p', autoSave globOk ps.2 a.serial (nameOf a) a.data) else (p', ps.2)
          | _, _ => (p', ps.2))
      | none => (p', ps.2)) ({}, existing)

theorem splitSlash_no_sep (n : Name) : ∀ p ∈ splitSlash n, '/' ∉ p := by
  induction n with
  | nil => exact List.forall_mem_singleton.mpr List.not_mem_nil
  | cons c t ih =>
    unfold splitSlash
    by_cases hc : (c == '/') = true
    · rw [if_pos hc]
      exact List.forall_mem_cons.mpr ⟨List.not_mem_nil, ih⟩
    · rw [if_neg hc]
      -- `c`, not a separator, joins the first part of the rest
      have hcons : ∀ h : Name, '/' ∉ h → '/' ∉ c :: h := fun h hh hm =>
        (List.mem_cons.mp hm).elim (fun e => hc (beq_iff_eq.mpr e.symm)) hh
      cases heq : splitSlash t with
      | nil => exact List.forall_mem_singleton.mpr (hcons [] List.not_mem_nil)
      | cons h r =>
        rw [heq] at ih
        exact List.forall_mem_cons.mpr ⟨hcons h (ih h List.mem_cons_self), fun p hp => ih p (List.mem_cons_of_mem h hp)⟩

end Ftm
