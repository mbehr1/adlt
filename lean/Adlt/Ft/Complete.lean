import Adlt.Ft.Lemmas
/-! C17 completeness, for one transfer (`Ft`) fed its packages (`feed`): all packages in order, already accepted ones possibly
    repeated ⇒ the transfer is reported complete and the stored data is the original, byte for byte. -/
namespace Ftm

def feed (t : Ft) (evs : List (Nat × List Nat)) : Ft := evs.foldl (fun t e => t.addFlda e.1 e.2) t

/-- `evs` delivers the packages `pk` numbered `k, k+1, …` in this order; in between, packages with a number
    that was already accepted (`< k` at that moment) may be repeated with any content -/
inductive InOrder : Nat → List (List Nat) → List (Nat × List Nat) → Prop
  | done (k : Nat) : InOrder k [] []
  | dup (k : Nat) (pk : List (List Nat)) (evs : List (Nat × List Nat)) (j : Nat) (x : List Nat) :
      j < k → InOrder k pk evs → InOrder k pk ((j, x) :: evs)
  | next (k : Nat) (p : List Nat) (pk : List (List Nat)) (evs : List (Nat × List Nat)) :
      InOrder (k + 1) pk evs → InOrder k (p :: pk) ((k, p) :: evs)

/-- package sizes: all `buf` long, the last one at most `buf` -/
def SizesOk (buf : Nat) : List (List Nat) → Prop
  | [] => True
  | [p] => p.length ≤ buf
  | p :: q :: t => p.length = buf ∧ SizesOk buf (q :: t)

/-- `t` has taken the packages `1 … k-1` of the `n` announced (each `buf` long, the last at most); `pk` are the payloads
    still to come, `orig` is the file -/
structure Good (n buf : Nat) (t : Ft) (k : Nat) (pk : List (List Nat)) (orig : List Nat) : Prop where
  hbuf : t.bufferSize = buf
  hbufpos : 0 < buf
  hnr : t.nrPackages = some n
  hnext : t.nextPackage = k
  hk : 1 ≤ k
  hcover : k + pk.length = n + 1
  hsizes : SizesOk buf pk
  hdata : t.keep = true → t.data ++ pk.flatten = orig
  running : pk ≠ [] → t.state = .started ∧ t.recvdPackages = k - 1 ∧
      t.fileSize = t.recvdPayload + pk.flatten.length
  finished : pk = [] → t.state = .complete

theorem SizesOk.tail {buf : Nat} {p : List Nat} {pk : List (List Nat)} (h : SizesOk buf (p :: pk)) : SizesOk buf pk := by
  cases pk with
  | nil => trivial
  | cons q r => exact h.2

theorem Good.buf_ne {n buf : Nat} {t : Ft} {k : Nat} {pk : List (List Nat)} {orig : List Nat}
    (g : Good n buf t k pk orig) : t.bufferSize ≠ 0 := by
  rw [g.hbuf]; exact Nat.ne_of_gt g.hbufpos

theorem addFlda_dup {n buf : Nat} {t : Ft} {k : Nat} {pk : List (List Nat)} {orig : List Nat}
    (g : Good n buf t k pk orig) (j : Nat) (x : List Nat) (hj : j < k) : t.addFlda j x = t := by
  rw [addFlda_eq t t j x (learn_id t j x.length g.buf_ne), if_pos (show j < t.nextPackage from g.hnext.symm ▸ hj), ite_self]

theorem addFlda_next {n buf : Nat} {t : Ft} {k : Nat} {p : List Nat} {pk : List (List Nat)} {orig : List Nat}
    (g : Good n buf t k (p :: pk) orig) : Good n buf (t.addFlda k p) (k + 1) pk orig := by
  obtain ⟨hst, hrec, hsz⟩ := g.running (List.cons_ne_nil p pk)
  obtain rfl := g.hnext
  obtain rfl : t.nextPackage + pk.length = n := Nat.succ.inj g.hcover
  -- the size rule: only the last package may be short
  have hlen : p.length = t.bufferSize ∨ (t.nrPackages = some t.nextPackage ∧ p.length < t.bufferSize) := by
    rw [g.hbuf, g.hnr]
    cases pk with
    | nil => exact (Nat.lt_or_eq_of_le (g.hsizes : p.length ≤ buf)).elim (fun h => .inr ⟨rfl, h⟩) .inl
    | cons q r => exact .inl (g.hsizes : _ ∧ _).1
  rw [(addFlda_accept t _ p g.buf_ne hst rfl hlen).trans (checkFinished_false_some _ _ g.hnr)]
  exact
    { hbuf := g.hbuf, hbufpos := g.hbufpos, hnr := g.hnr, hnext := rfl, hk := Nat.le_add_left 1 _,
      hcover := Nat.add_right_comm _ _ _,
      hsizes := g.hsizes.tail,
      hdata := by
        intro (hk' : t.keep = true)
        show (if t.keep = true then t.data ++ p else t.data) ++ pk.flatten = orig
        rw [if_pos hk', List.append_assoc, ← List.flatten_cons]
        exact g.hdata hk',
      running := by
        intro hne
        -- neither the last package nor all of them yet: the state stays
        have hlt : t.nextPackage < t.nextPackage + pk.length := Nat.lt_add_of_pos_right (List.length_pos_iff.mpr hne)
        have h2 : t.recvdPackages + 1 = t.nextPackage := by rw [hrec, Nat.sub_add_cancel g.hk]
        refine ⟨(if_neg fun h => Nat.lt_irrefl _ (Nat.lt_of_lt_of_le h.1 hlt)).trans
          ((if_neg (Nat.not_le.mpr (h2.symm ▸ hlt))).trans hst), h2, ?_⟩
        show t.fileSize = t.recvdPayload + p.length + pk.flatten.length
        rw [hsz, List.flatten_cons, List.length_append, Nat.add_assoc],
      finished := by
        -- that was the last one: all packages are in and the sizes agree
        intro e; subst e
        exact if_pos ⟨Nat.lt_succ_self _, by rw [hsz, List.flatten_cons, List.flatten_nil, List.append_nil]; rfl⟩ }

theorem feed_inorder {n buf : Nat} {orig : List Nat} {k : Nat} {pk : List (List Nat)} {evs : List (Nat × List Nat)}
    (ho : InOrder k pk evs) (t : Ft) (g : Good n buf t k pk orig) :
    (feed t evs).state = .complete ∧ ((feed t evs).keep = true → (feed t evs).data = orig) := by
  induction ho generalizing t with
  | done k =>
    exact ⟨g.finished rfl, fun hk => (List.append_nil _).symm.trans (g.hdata hk)⟩
  | dup k pk evs j x hj _ ih =>
    simp only [feed, List.foldl_cons]
    rw [addFlda_dup g j x hj]
    exact ih t g
  | next k p pk evs _ ih =>
    simp only [feed, List.foldl_cons]
    exact ih _ (addFlda_next g)

end Ftm
