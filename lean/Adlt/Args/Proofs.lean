import Adlt.Args.Model
/-! C18: decoding what the encoder wrote gives back the same arguments (both byte orders), also when other bytes follow.
    About `Arg.next` (Args/Model.lean); the panic-freedom of the same Rust function (C03) is proved on a second, index-based
    model, `Safe.argNext` (Safe/ArgIter.lean); no theorem connects the two.
    Round trip, truncation (Trunc.lean) and malformed input (Corrupt.lean) all read the decoder through `nextTi_eq`: on any
    type-info word it is `layoutOf` (which layout, or stop) followed by `valueAt` (take the bytes). -/
namespace Arg

theorem wr32_length (be : Bool) (n : Nat) : (wr32 be n).length = 4 := by
  cases be <;> rfl

theorem wr16_length (be : Bool) (n : Nat) : (wr16 be n).length = 2 := by
  cases be <;> rfl

theorem next_wr32 (be : Bool) (n : Nat) (h : n < 4294967296) (rest : Bytes) :
    next be (wr32 be n ++ rest) = nextTi n rest be := by
  have key : u32le (UInt8.ofNat (n % 256)) (UInt8.ofNat (n / 256 % 256)) (UInt8.ofNat (n / 65536 % 256))
      (UInt8.ofNat (n / 16777216 % 256)) = n := by
    -- digit by digit: `n % 256 ^ k` and the next digit make `n % 256 ^ (k + 1)` (`Nat.mod_mul`), and `n % 256 ^ 4 = n`
    simp only [u32le, UInt8.toNat_ofNat', Nat.mod_mod]
    rw [Nat.mul_comm _ 256, ← Nat.mod_mul, Nat.mul_comm _ 65536, ← Nat.mod_mul, Nat.mul_comm _ 16777216, ← Nat.mod_mul]
    exact Nat.mod_eq_of_lt h
  cases be <;> exact congrArg (nextTi · rest _) key

theorem rd16_wr16 (be : Bool) (n : Nat) (h : n < 65536) (rest : Bytes) :
    ∃ a b, wr16 be n ++ rest = a :: b :: rest ∧ rd16 be a b = n := by
  have key : u16le (UInt8.ofNat (n % 256)) (UInt8.ofNat (n / 256 % 256)) = n := by
    simp only [u16le, UInt8.toNat_ofNat', Nat.mod_mod]
    rw [Nat.mul_comm, ← Nat.mod_mul]
    exact Nat.mod_eq_of_lt h
  cases be <;> exact ⟨_, _, rfl, key⟩

/-- the length code in the word of a number -/
def Val.tyle : Val → Nat
  | .uint t _ | .sint t _ | .floa t _ => t
  | _ => 0

theorem wf_tyle (v : Val) (hw : v.wf = true) : v.tyle ≤ 4 := by
  cases v
  case uint | sint => simp only [Val.wf, Bool.and_eq_true, decide_eq_true_eq] at hw; exact hw.1.2
  case floa => simp only [Val.wf, Val.tyle, Bool.and_eq_true, Bool.or_eq_true, beq_iff_eq] at hw ⊢; omega
  all_goals exact Nat.zero_le _

theorem ti_lt (v : Val) (hw : v.wf = true) : v.ti < 4294967296 := by
  have h := wf_tyle v hw
  cases v
  case uint | sint | floa => exact Nat.lt_of_le_of_lt (Nat.add_le_add_left h _) (by decide)  -- a type bit and a length code ≤ 4
  all_goals
    dsimp only [Val.ti]
    decide

def Val.body (be : Bool) (v : Val) : Bytes := (if v.hasLen then wr16 be v.bytes.length else []) ++ v.bytes

theorem encArg_eq (be : Bool) (v : Val) : encArg be v = wr32 be v.ti ++ v.body be := by
  unfold encArg Val.body; simp

/-- how the value bytes behind a type-info word are delimited -/
inductive Layout where
  | fixed (w : Nat)
  | lenPrefixed          -- behind a 16-bit length
deriving DecidableEq

/-- the `if` chain of `nextTi` without the bytes; `none`: the decoder stops at this word -/
def layoutOf (ti : Nat) : Option Layout :=
  if has ti Gen.tiVari then none
  else if has ti Gen.tiFixp then none
  else if has ti (Gen.tiAray + Gen.tiTrai + Gen.tiStru) then none
  else if has ti Gen.tiBool then
    (if tyleLen ti != 1 && Nat.land ti Gen.tiMaskTyle != 0 then none else some (.fixed 1))
  else if has ti (Gen.tiSint + Gen.tiUint) then (if tyleLen ti < 1 then none else some (.fixed (tyleLen ti)))
  else if has ti Gen.tiFloa then (if tyleLen ti < 2 then none else some (.fixed (tyleLen ti)))
  else if has ti (Gen.tiStrg + Gen.tiRawd) then some .lenPrefixed
  else none

/-- `w` bytes from the front of `rest` -/
def takeArg (ti w : Nat) (rest : Bytes) : Option (DArg × Bytes) :=
  if rest.length ≥ w then some (⟨ti, rest.take w⟩, rest.drop w) else none

/-- take the value bytes from the front of `rest` as the layout says -/
def valueAt (be : Bool) (ti : Nat) (rest : Bytes) : Option Layout → Option (DArg × Bytes)
  | none => none
  | some (.fixed w) => takeArg ti w rest
  | some .lenPrefixed =>
    match rest with
    | l1 :: l2 :: rest' => takeArg ti (rd16 be l1 l2) rest'
    | _ => none

theorem nextTi_eq (ti : Nat) (rest : Bytes) (be : Bool) : nextTi ti rest be = valueAt be ti rest (layoutOf ti) := by
  unfold layoutOf
  -- `valueAt` moved to the leaves of the chain (`nextTi` stays folded meanwhile, so that only the right side is walked through);
  -- then the two sides differ in how the one byte of a bool is taken
  simp only [apply_ite (valueAt be ti rest)]
  cases rest <;> rfl

def Val.layout (v : Val) : Layout := if v.hasLen then .lenPrefixed else .fixed v.bytes.length

/-- the layouts of the words the encoder writes; `t`: the length code of a number (3, 4 are the float codes) -/
theorem layoutOf_words : ∀ t, t ≤ 4 →
    layoutOf (Gen.tiBool + 1) = some (.fixed 1) ∧
    (1 ≤ t → layoutOf (Gen.tiUint + t) = some (.fixed (widthOf t)) ∧ layoutOf (Gen.tiSint + t) = some (.fixed (widthOf t))) ∧
    (t = 3 ∨ t = 4 → layoutOf (Gen.tiFloa + t) = some (.fixed (widthOf t))) ∧
    layoutOf (Gen.tiStrg + Gen.scodUtf8) = some .lenPrefixed ∧ layoutOf (Gen.tiStrg + Gen.scodAscii) = some .lenPrefixed ∧
    layoutOf Gen.tiRawd = some .lenPrefixed := by
  decide

theorem layoutOf_ti (v : Val) (hw : v.wf = true) : layoutOf v.ti = some v.layout := by
  obtain ⟨hb, hi, hf, h8, ha, hr⟩ := layoutOf_words v.tyle (wf_tyle v hw)
  cases v
  case bool => exact hb
  case utf8 => exact h8
  case ascii => exact ha
  case raw => exact hr
  all_goals
    simp only [Val.wf, Bool.and_eq_true, Bool.or_eq_true, decide_eq_true_eq, beq_iff_eq] at hw
    simp only [Val.layout, Val.hasLen, Val.bytes, Bool.false_eq_true, ↓reduceIte]
    rw [hw.2]
  case uint => exact (hi hw.1.1).1
  case sint => exact (hi hw.1.1).2
  case floa => exact hf hw.1

theorem bytes_length_lt (v : Val) (hw : v.wf = true) (h : v.hasLen = true) : v.bytes.length < 65536 := by
  cases v
  case utf8 | ascii | raw => exact of_decide_eq_true hw
  all_goals cases h

theorem valueAt_append (be : Bool) (v : Val) (hw : v.wf = true) (rest : Bytes) :
    valueAt be v.ti (v.body be ++ rest) (some v.layout) = some (v.decoded, rest) := by
  unfold Val.layout Val.body Val.decoded
  cases h : v.hasLen
  · simp [valueAt, takeArg]
  · obtain ⟨l1, l2, e1, e2⟩ := rd16_wr16 be v.bytes.length (bytes_length_lt v hw h) (v.bytes ++ rest)
    simp only [if_true, List.append_assoc, e1, valueAt, e2]
    simp [takeArg]

theorem next_encArg (be : Bool) (v : Val) (hw : v.wf = true) (rest : Bytes) :
    next be (encArg be v ++ rest) = some (v.decoded, rest) := by
  rw [encArg_eq, List.append_assoc, next_wr32 be _ (ti_lt v hw), nextTi_eq, layoutOf_ti v hw, valueAt_append be v hw]

theorem encArg_length_ge (be : Bool) (v : Val) : 4 ≤ (encArg be v).length := by
  rw [encArg_eq, List.length_append, wr32_length]; exact Nat.le_add_right 4 _

/-- with more fuel than bytes (what `argIter` starts with) the encoded arguments are decoded one by one -/
theorem iterFuel_encode_append (be : Bool) (vs : List Val) (hw : ∀ v ∈ vs, v.wf = true) (q : Bytes) (fuel : Nat)
    (hf : (encode be vs ++ q).length < fuel) :
    iterFuel be fuel (encode be vs ++ q) = vs.map Val.decoded ++ iterFuel be (fuel - vs.length) q := by
  induction vs generalizing fuel with
  | nil => rfl
  | cons v t ih =>
    cases fuel with
    | zero => cases hf
    | succ n =>
      rw [show encode be (v :: t) = encArg be v ++ encode be t from rfl, List.append_assoc] at hf ⊢
      rw [iterFuel, next_encArg be v (hw v List.mem_cons_self), List.length_cons, Nat.add_sub_add_right]
      -- the argument took at least four bytes and one unit of fuel
      rw [List.length_append] at hf
      have hn : (encode be t ++ q).length < n :=
        Nat.lt_of_lt_of_le (Nat.lt_add_of_pos_left (Nat.lt_of_lt_of_le (by decide) (encArg_length_ge be v))) (Nat.le_of_lt_succ hf)
      exact congrArg (v.decoded :: ·) (ih (fun x hx => hw x (List.mem_cons_of_mem _ hx)) n hn)

theorem iterFuel_nil (be : Bool) (fuel : Nat) : iterFuel be fuel [] = [] := by
  cases fuel <;> rfl

end Arg
