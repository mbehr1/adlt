import Adlt.Args.Proofs
/-! C18: a truncated payload decodes to a prefix of what the whole payload decodes to, whatever the payload: an argument the
    decoder finds in `p` it finds again, with the same bytes, when more bytes follow `p`. -/
namespace Arg

theorem next_short (be : Bool) (p : Bytes) (h : p.length < 4) : next be p = none := by
  rcases p with _ | ⟨_, _ | ⟨_, _ | ⟨_, _ | ⟨_, _⟩⟩⟩⟩
  iterate 4 rfl
  exact absurd h (by simp)

theorem takeArg_extend {ti w : Nat} {p : Bytes} {a : DArg} {r : Bytes} (q : Bytes) (h : takeArg ti w p = some (a, r)) :
    takeArg ti w (p ++ q) = some (a, r ++ q) := by
  obtain ⟨hl, h⟩ := Option.ite_none_right_eq_some.mp h
  cases h
  unfold takeArg
  rw [if_pos (by rw [List.length_append]; exact Nat.le_add_right_of_le hl), List.take_append_of_le_length hl, List.drop_append_of_le_length hl]

theorem valueAt_extend {be : Bool} {ti : Nat} {p : Bytes} {l : Option Layout} {a : DArg} {r : Bytes} (q : Bytes)
    (h : valueAt be ti p l = some (a, r)) : valueAt be ti (p ++ q) l = some (a, r ++ q) := by
  -- no layout, a fixed width, behind a length (whose two bytes are there or not)
  unfold valueAt at h
  split at h
  · cases h
  · exact takeArg_extend q h
  · split at h
    · exact takeArg_extend q h
    · cases h

theorem next_extend {be : Bool} {p : Bytes} {a : DArg} {r : Bytes} (q : Bytes) (h : next be p = some (a, r)) :
    next be (p ++ q) = some (a, r ++ q) := by
  unfold next at h
  split at h
  · rw [nextTi_eq] at h
    exact (nextTi_eq ..).trans (valueAt_extend q h)
  · cases h

/-- also with less fuel: `argIter` takes its fuel from the length of what it is given -/
theorem iterFuel_prefix (be : Bool) (q : Bytes) (fuel fuel' : Nat) (p : Bytes) (hf : fuel ≤ fuel') :
    ∃ n, iterFuel be fuel p = (iterFuel be fuel' (p ++ q)).take n := by
  fun_induction iterFuel be fuel p generalizing fuel' with
  | case1 | case3 => exact ⟨0, rfl⟩
  | case2 f p a rest hx ih =>
    obtain ⟨f', rfl⟩ := Nat.exists_eq_add_one_of_ne_zero (Nat.ne_of_gt (Nat.lt_of_lt_of_le f.succ_pos hf))
    obtain ⟨n, hn⟩ := ih f' (Nat.le_of_succ_le_succ hf)
    exact ⟨n + 1, by rw [iterFuel, next_extend q hx, hn, List.take_succ_cons]⟩

theorem argIter_take (be : Bool) (p : Bytes) (k : Nat) : ∃ n, argIter be (p.take k) = (argIter be p).take n := by
  have h := iterFuel_prefix be (p.drop k) ((p.take k).length + 1) (p.length + 1) (p.take k)
    (Nat.succ_le_succ (List.length_take_le' k p))
  rwa [List.take_append_drop] at h

end Arg
