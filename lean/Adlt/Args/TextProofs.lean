import Adlt.Args.Text
import Adlt.Args.Proofs
/-! C18: the rendered text of decoded arguments is the canonical form of the typed values. -/
namespace Arg

/-- what the renderer looks at in a type-info word -/
structure TiBits where
  bool : Bool := false
  sint : Bool := false
  uint : Bool := false
  floa : Bool := false
  strg : Bool := false
  rawd : Bool := false
  scod : Nat := 0

/-- the renderer finds `b` in the word `ti` -/
def Shows (ti : Nat) (b : TiBits) : Prop :=
  has ti Gen.tiBool = b.bool ∧ has ti Gen.tiSint = b.sint ∧ has ti Gen.tiUint = b.uint ∧ has ti Gen.tiFloa = b.floa ∧
  has ti Gen.tiStrg = b.strg ∧ has ti Gen.tiRawd = b.rawd ∧ Nat.land ti Gen.tiMaskScod = b.scod

-- instance search does not unfold the `def`; `decide` in `tiBits_words` needs this
instance (ti : Nat) (b : TiBits) : Decidable (Shows ti b) := by unfold Shows; infer_instance

/-- the bits the encoder sets, by kind of value -/
def Val.bits : Val → TiBits
  | .bool _ => { bool := true }
  | .uint .. => { uint := true }
  | .sint .. => { sint := true }
  | .floa .. => { floa := true }
  | .utf8 _ => { strg := true, scod := Gen.scodUtf8 }
  | .ascii _ => { strg := true, scod := Gen.scodAscii }
  | .raw _ => { rawd := true }

/-- `t`: the length code of a number -/
theorem tiBits_words : ∀ t, t ≤ 4 →
    Shows (Gen.tiBool + 1) { bool := true } ∧
    Shows (Gen.tiUint + t) { uint := true } ∧
    Shows (Gen.tiSint + t) { sint := true } ∧
    Shows (Gen.tiFloa + t) { floa := true } ∧
    Shows (Gen.tiStrg + Gen.scodUtf8) { strg := true, scod := Gen.scodUtf8 } ∧
    Shows (Gen.tiStrg + Gen.scodAscii) { strg := true, scod := Gen.scodAscii } ∧
    Shows Gen.tiRawd { rawd := true } := by
  decide

theorem tiBits_ti (v : Val) (hw : v.wf = true) : Shows v.ti v.bits := by
  obtain ⟨hb, hu, hs, hf, h8, ha, hr⟩ := tiBits_words v.tyle (wf_tyle v hw)
  cases v
  case bool => exact hb
  case uint => exact hu
  case sint => exact hs
  case floa => exact hf
  case utf8 => exact h8
  case ascii => exact ha
  case raw => exact hr

/-- the five widths are those `renderArg` accepts -/
theorem widthOf_rendered : ∀ t, t ≤ 4 → 1 ≤ t →
    (widthOf t == 1 || widthOf t == 2 || widthOf t == 4 || widthOf t == 8 || widthOf t == 16) = true := by decide

theorem renderArg_decoded (op : Opaque) (be : Bool) (v : Val) (hw : v.wf = true) :
    renderArg op be v.decoded = canonVal op be v := by
  obtain ⟨hb, hs, hu, hf, hg, hr, hc⟩ := tiBits_ti v hw
  unfold Val.decoded renderArg
  rw [hb, hs, hu, hf, hg, hr, hc]
  cases v
  case bool x => cases x <;> rfl
  case uint | sint =>
    simp only [Val.wf, Bool.and_eq_true, decide_eq_true_eq, beq_iff_eq] at hw
    simp only [Val.bits, Val.bytes, canonVal, Bool.false_eq_true, ↓reduceIte, hw.2, widthOf_rendered _ hw.1.2 hw.1.1]
  all_goals rfl

theorem render_decoded (op : Opaque) (be : Bool) (vs : List Val) (hw : ∀ v ∈ vs, v.wf = true) :
    render op be (vs.map Val.decoded) = canon op be vs := by
  unfold render canon
  congr 1
  rw [List.map_map]
  apply List.map_congr_left
  intro v hv
  exact renderArg_decoded op be v (hw v hv)

end Arg
