import Adlt.Args.Proofs
/-! C18, malformed argument lists: whatever the bytes are, every argument the decoder yields has a supported type info
    (no layout-changing modifier, no reserved length code). -/
namespace Arg

theorem tyleLen_reserved (ti : Nat) (h : 6 ≤ Nat.land ti Gen.tiMaskTyle) : tyleLen ti = 0 := by
  obtain ⟨k, hk⟩ := Nat.exists_eq_add_of_le' h
  unfold tyleLen
  rw [hk]
  rfl  -- `k + 6` is none of the five literal patterns

theorem layoutOf_unsupported {ti : Nat} (h : unsupportedTi ti = true) : layoutOf ti = none := by
  unfold layoutOf
  simp only [unsupportedTi, Bool.or_eq_true, Bool.and_eq_true, decide_eq_true_eq] at h
  rcases h with ((h | h) | h) | ⟨h, h6⟩
  · rw [if_pos h]
  · rw [if_pos h, ite_self]
  · rw [if_pos h, ite_self, ite_self]
  · -- a reserved length code has no width, so each of the three fixed-size branches stops; one of them is taken
    have h0 : (Nat.land ti Gen.tiMaskTyle != 0) = true := bne_iff_ne.2 (Nat.ne_zero_of_lt h6)
    simp only [tyleLen_reserved ti h6, h0, Nat.zero_lt_succ, Bool.and_true, Nat.reduceBNe, ↓reduceIte]
    rcases h with (h | h) | h <;> simp only [h, ↓reduceIte, ite_self]

theorem takeArg_ti {ti w : Nat} {p : Bytes} {a : DArg} {r : Bytes} (h : takeArg ti w p = some (a, r)) : a.ti = ti := by
  obtain ⟨_, h⟩ := Option.ite_none_right_eq_some.mp h
  cases h
  rfl

theorem valueAt_ti {be : Bool} {ti : Nat} {rest : Bytes} {l : Option Layout} {a : DArg} {r : Bytes}
    (h : valueAt be ti rest l = some (a, r)) : a.ti = ti := by
  -- no layout, a fixed width, behind a length (whose two bytes are there or not)
  unfold valueAt at h
  split at h
  · cases h
  · exact takeArg_ti h
  · split at h
    · exact takeArg_ti h
    · cases h

theorem nextTi_supported (ti : Nat) (rest : Bytes) (be : Bool) (a : DArg) (r : Bytes)
    (h : nextTi ti rest be = some (a, r)) : a.ti = ti ∧ unsupportedTi ti = false := by
  rw [nextTi_eq] at h
  cases hu : unsupportedTi ti with
  | true => rw [layoutOf_unsupported hu] at h; cases h
  | false => exact ⟨valueAt_ti h, rfl⟩

theorem next_supported (be : Bool) (p : Bytes) (a : DArg) (r : Bytes) (h : next be p = some (a, r)) :
    unsupportedTi a.ti = false := by
  unfold next at h
  split at h
  · obtain ⟨e, hu⟩ := nextTi_supported _ _ _ _ _ h
    rw [e]; exact hu
  · cases h

theorem iterFuel_supported (be : Bool) (fuel : Nat) (p : Bytes) : ∀ a ∈ iterFuel be fuel p, unsupportedTi a.ti = false := by
  fun_induction iterFuel be fuel p with
  | case1 | case3 => exact List.forall_mem_nil _
  | case2 fuel p a rest hx ih => exact List.forall_mem_cons.mpr ⟨next_supported be p a rest hx, ih⟩

end Arg
