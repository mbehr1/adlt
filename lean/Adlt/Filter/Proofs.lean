import Adlt.Filter.Model
/-! C11: the sequential matcher equals the conjunction of the criteria; C12: set semantics. -/
namespace Flt

/-! ### each `…Fails` block of `Filter::matches` is the negation of one criterion -/

theorem ecuFails_eq (re : Re) (f : Filter) (m : MsgView) : ecuFails re f m = !Spec.ecuOk re f m := by
  unfold ecuFails Spec.ecuOk; cases f.ecu <;> rfl
theorem apidFails_eq (re : Re) (f : Filter) (m : MsgView) : apidFails re f m = !Spec.apidOk re f m := by
  unfold apidFails Spec.apidOk; cases f.apid <;> cases m.ext <;> rfl
theorem ctidFails_eq (re : Re) (f : Filter) (m : MsgView) : ctidFails re f m = !Spec.ctidOk re f m := by
  unfold ctidFails Spec.ctidOk; cases f.ctid <;> cases m.ext <;> rfl
theorem typeFails_eq (f : Filter) (m : MsgView) : typeFails f m = !Spec.typeOk f m := by
  unfold typeFails Spec.typeOk; cases f.vmm <;> cases m.ext <;> rfl
theorem lvlMinFails_eq (f : Filter) (m : MsgView) : lvlMinFails f m = !Spec.lvlMinOk f m := by
  unfold lvlMinFails Spec.lvlMinOk; cases f.lvlMin <;> cases m.ext <;> rfl
theorem lvlMaxFails_eq (f : Filter) (m : MsgView) : lvlMaxFails f m = !Spec.lvlMaxOk f m := by
  unfold lvlMaxFails Spec.lvlMaxOk; cases f.lvlMax <;> cases m.ext <;> rfl
theorem payloadFails_eq (re : Re) (f : Filter) (m : MsgView) : payloadFails re f m = !Spec.payloadOk re f m := by
  unfold payloadFails Spec.payloadOk
  cases f.payloadRegex with
  | some p => rfl
  | none =>
    cases f.payload with
    | none => cases f.payloadCi <;> rfl
    | some p => exact (apply_ite not _ _ _).symm  -- the code tests `payloadCi` first, the specification `payload`
theorem lcFails_eq (f : Filter) (m : MsgView) : lcFails f m = !Spec.lcOk f m := by
  unfold lcFails Spec.lcOk; cases f.lifecycles <;> simp

/-- one early return of the sequential code is one conjunct of the specification -/
theorem early_return (ok rest n : Bool) : (if (!ok) = true then n else (rest != n)) = ((ok && rest) != n) := by
  cases ok <;> cases n <;> rfl

/-- `Filter::matches` decides exactly: enabled ∧ (all specified criteria hold ≠ negated), for every regular-expression engine -/
theorem matchesImpl_eq_spec (re : Re) (f : Filter) (m : MsgView) : matchesImpl re f m = Spec.decides re f m := by
  unfold matchesImpl Spec.decides Spec.conj
  rw [ecuFails_eq, apidFails_eq, ctidFails_eq, typeFails_eq, lvlMinFails_eq, lvlMaxFails_eq, payloadFails_eq, lcFails_eq]
  cases f.enabled
  · rfl
  · rw [← Bool.true_bne f.negate]
    -- the chain of early returns folds up from the innermost one
    simp only [early_return, Bool.and_true, Bool.and_assoc]
    rfl  -- the test of `enabled` and `true && _` compute away

/-- the matcher reads neither `kind` (the set semantics does) nor `ignoreCase` (it is compiled into `payloadRegex` / `payloadCi`) -/
theorem matchesImpl_unread (re : Re) (g : Filter) (k : Kind) (i : Bool) (m : MsgView) :
    matchesImpl re { g with kind := k, ignoreCase := i } m = matchesImpl re g m := rfl

theorem apidOk_noext (re : Re) (f : Filter) {m : MsgView} (hm : m.ext = none) : Spec.apidOk re f m = !f.apid.isSome := by
  unfold Spec.apidOk; rw [hm]; cases f.apid <;> rfl
theorem ctidOk_noext (re : Re) (f : Filter) {m : MsgView} (hm : m.ext = none) : Spec.ctidOk re f m = !f.ctid.isSome := by
  unfold Spec.ctidOk; rw [hm]; cases f.ctid <;> rfl
theorem typeOk_noext (f : Filter) {m : MsgView} (hm : m.ext = none) : Spec.typeOk f m = !f.vmm.isSome := by
  unfold Spec.typeOk; rw [hm]; cases f.vmm <;> rfl
theorem lvlMinOk_noext (f : Filter) {m : MsgView} (hm : m.ext = none) : Spec.lvlMinOk f m = !f.lvlMin.isSome := by
  unfold Spec.lvlMinOk; rw [hm]; cases f.lvlMin <;> rfl
theorem lvlMaxOk_noext (f : Filter) {m : MsgView} (hm : m.ext = none) : Spec.lvlMaxOk f m = !f.lvlMax.isSome := by
  unfold Spec.lvlMaxOk; rw [hm]; cases f.lvlMax <;> rfl

/-- the decision of `filter_as_streams` for one message; the one fact that is not Boolean: an empty `neg` has no match.
    The left side is written as `filterAsStreams` / `Cvt.keepImpl` unfold (their `keep`), so that it applies to them as it
    stands: when that code changes shape, this is the statement to change -/
theorem veto_eq {α} (pos neg : List α) (p : α → Bool) :
    (if ((if (!pos.isEmpty) = true then pos.any p else true) && !neg.isEmpty) = true then !neg.any p
      else if (!pos.isEmpty) = true then pos.any p else true) = ((pos.isEmpty || pos.any p) && !neg.any p) := by
  cases neg with
  | nil => cases pos.isEmpty <;> cases pos.any p <;> rfl
  | cons x t => cases pos.isEmpty <;> cases pos.any p <;> cases (x :: t).any p <;> rfl

theorem filter_filter_enabled (fs : List Filter) (k : Kind) :
    (keepEnabled fs).filter (·.kind == k) = fs.filter fun f => f.enabled && f.kind == k := by
  unfold keepEnabled
  rw [List.filter_filter]
  congr 1
  funext f
  cases f.enabled <;> simp

/-- the left side has the shape `matchFilters` unfolds to -/
theorem ite_and (a b c : Bool) : (if a = true then (if b = true then c else false) else false) = (a && b && c) := by
  cases a <;> cases b <;> rfl

end Flt
