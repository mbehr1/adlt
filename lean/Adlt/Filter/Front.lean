import Adlt.Filter.Model
/-! Models of the filter front-ends on an abstract configuration (`AFilter` = the key/value content of a JSON filter
    object; the DLF attribute set and the dlt-convert APID/CTID list are renderings of the same abstract filter). -/
namespace Flt

structure AFilter where
  kind : Nat := 0
  enabled : Bool := true
  negate : Bool := false
  ecu : Option String := none
  ecuRe : Option Bool := none        -- `ecuIsRegex` given? (none = omitted → auto-detection)
  apid : Option String := none
  apidRe : Option Bool := none
  ctid : Option String := none
  ctidRe : Option Bool := none
  vmm : Option Nat := none           -- key `verb_mstp_mtin`
  mstp : Option Nat := none          -- key `mstp`
  payload : Option String := none
  payloadRegex : Option String := none
  ignoreCase : Bool := false
  lvlMin : Option Nat := none
  lvlMax : Option Nat := none
  lifecycles : Option (List Nat) := none
deriving Repr, DecidableEq

def regexChars : List Char := ['^', '$', '*', '+', '?', '(', ')', '[', ']', '{', '}', '|', '.', '-', '\\', '=', '!', '<', '>', ',']
def containsRegexChars (s : String) : Bool := s.toList.any fun c => regexChars.contains c

/-- `DltChar4::from_str`: ASCII only, truncated / zero-padded to 4 bytes -/
def char4 (s : String) : Option (List UInt8) :=
  if s.toList.all (fun c => c.toNat < 128) then
    let b := (s.toList.map fun c => UInt8.ofNat c.toNat).take 4
    some (b ++ List.replicate (4 - b.length) 0)
  else none

/-- `Char4OrRegex::from_str(s, is_regex)`; `reOk` = the pattern compiles -/
def idCrit (reOk : String → Bool) (s : String) (flag : Option Bool) : Option IdCrit :=
  if flag.getD (containsRegexChars s) then (if reOk s then some (.re s) else none)
  else (char4 s).map .lit

def kindOf : Nat → Option Kind
  | 0 => some .positive | 1 => some .negative | 2 => some .marker | 3 => some .event | _ => none

def vmmOf (a : AFilter) : Option (Nat × Nat) :=
  match a.vmm with
  | some v => let v := v % 256; some (v, if mtinOf v == 0 then 15 else 255)
  | none => match a.mstp with
    | some m => some ((m % 8) * 2, 14)
    | none => none

/-- one id criterion of the JSON object: `none` = error, `some none` = key absent -/
def jId (reOk : String → Bool) (s : Option String) (flag : Option Bool) : Option (Option IdCrit) :=
  match s with
  | some s => (idCrit reOk s flag).map some
  | none => some none

def jPlre (reOk : String → Bool) (a : AFilter) : Option (Option String) :=
  match a.payloadRegex with
  | some p => if reOk (if a.ignoreCase then "(?i)" ++ p else p) then some (some (if a.ignoreCase then "(?i)" ++ p else p)) else none
  | none => some none

def jLvl (l : Option Nat) : Option (Option Nat) :=
  match l with
  | some l => if l ≤ 6 then some (some l) else none
  | none => some none

/-- `Filter::from_json` (`none` = an error is returned) -/
def fromJson (reOk : String → Bool) (a : AFilter) : Option Filter :=
  match kindOf a.kind, jId reOk a.ecu a.ecuRe, jId reOk a.apid a.apidRe, jId reOk a.ctid a.ctidRe, jPlre reOk a,
        jLvl a.lvlMin, jLvl a.lvlMax with
  | some kind, some ecu, some apid, some ctid, some plre, some lmin, some lmax =>
    some { kind := kind, enabled := a.enabled, negate := a.negate, ecu := ecu, apid := apid, ctid := ctid,
           vmm := vmmOf a,
           payload := if a.payloadRegex.isSome then none else a.payload,
           payloadRegex := plre, ignoreCase := a.ignoreCase,
           payloadCi := a.payloadRegex.isNone && a.payload.isSome && a.ignoreCase,
           lvlMin := lmin, lvlMax := lmax, lifecycles := a.lifecycles }
  | _, _, _, _, _, _, _ => none

/-- can the abstract filter be written as a dlt-viewer `<filter>` element? (no negation, no lifecycle list, type only
    "control messages", literal ECU) -/
def dlfExpressible (a : AFilter) : Bool :=
  !a.negate && a.lifecycles.isNone && a.vmm.isNone && (a.mstp.isNone || a.mstp == some 3) && a.kind ≤ 3 &&
  (match a.ecu with | some _ => a.ecuRe == some false | none => true)

/-- `Filter::from_quick_xml_reader` on the attribute set the harness renders for `a` (invalid regexes / ids are dropped
    silently by `.ok()`) -/
def fromDlf (reOk : String → Bool) (a : AFilter) : Filter :=
  { kind := (kindOf a.kind).getD .positive, enabled := a.enabled, negate := false,
    ecu := a.ecu.bind fun s => (char4 s).map .lit,
    apid := (jId reOk a.apid a.apidRe).getD none,
    ctid := (jId reOk a.ctid a.ctidRe).getD none,
    vmm := if a.mstp == some 3 then some (6, 14) else none,
    payload := if a.payloadRegex.isSome then none else a.payload,
    payloadRegex := (jPlre reOk a).getD none,
    ignoreCase := if a.payload.isSome || a.payloadRegex.isSome then a.ignoreCase else false,
    payloadCi := a.payloadRegex.isNone && a.payload.isSome && a.ignoreCase,
    lvlMin := (jLvl a.lvlMin).getD none,
    lvlMax := (jLvl a.lvlMax).getD none,
    lifecycles := none }

def listIdOk (s : Option String) (flag : Option Bool) : Bool :=
  match s, flag with
  | some x, some false => !x.isEmpty && x.toList.length ≤ 4 && x.toList.all (fun c => c.toNat < 128) && !x.toList.contains '-'
  | none, _ => true          -- not given: written as `----`
  | _, _ => false

/-- can the abstract filter be written as one entry of a dlt-convert APID/CTID list? (positive, enabled, each id either not
    given - written `----` - or a literal of at most four ASCII bytes without the padding character `-`, nothing else) -/
def listExpressible (a : AFilter) : Bool :=
  a.kind == 0 && a.enabled && !a.negate && a.ecu.isNone && listIdOk a.apid a.apidRe && listIdOk a.ctid a.ctidRe &&
  a.vmm.isNone && a.mstp.isNone && a.payload.isNone && a.payloadRegex.isNone && a.lvlMin.isNone && a.lvlMax.isNone &&
  a.lifecycles.isNone

/-- `filters_from_convert_format` on the entry the harness renders for `a`: the bytes up to the first `-` (at most four),
    zero padded, as literal ids of a positive filter -/
def fromList (a : AFilter) : Filter :=
  { apid := a.apid.bind fun s => (char4 s).map .lit, ctid := a.ctid.bind fun s => (char4 s).map .lit }

def showId (b : List UInt8) : String :=
  -- `Display for DltChar4`: stops at the first NUL; < 0x20 -> '-', > 0x7e -> '?'
  String.ofList ((b.takeWhile (· != 0)).map fun x => if x.toNat < 0x20 then '-' else if x.toNat > 0x7e then '?' else Char.ofNat x.toNat)

/-- `to_json` writes a case-insensitive pattern without the `(?i)` prefix the constructor had put in front of it -/
def stripCiOf (ic : Bool) (p : String) : String :=
  if ic && p.toList.take 4 == ['(', '?', 'i', ')'] then String.ofList (p.toList.drop 4) else p

def idOut (c : Option IdCrit) : Option String × Option Bool :=
  match c with
  | some (.lit b) => (some (showId b), some false)
  | some (.re p) => (some p, some true)
  | none => (none, none)

def kindNum : Kind → Nat
  | .positive => 0 | .negative => 1 | .marker => 2 | .event => 3

/-- `Filter::to_json` as an abstract configuration -/
def toJson (f : Filter) : AFilter :=
  let stripCi (p : String) : String := stripCiOf f.ignoreCase p
  { kind := kindNum f.kind, enabled := f.enabled, negate := f.negate,
    ecu := (idOut f.ecu).1, ecuRe := (idOut f.ecu).2,
    apid := (idOut f.apid).1, apidRe := (idOut f.apid).2,
    ctid := (idOut f.ctid).1, ctidRe := (idOut f.ctid).2,
    vmm := match f.vmm with | some (v, mask) => if mask == 14 then none else some v | none => none,
    mstp := match f.vmm with | some (v, mask) => if mask == 14 then some (mstpOf v) else none | none => none,
    payload := if f.payloadRegex.isSome then none else f.payload,
    payloadRegex := f.payloadRegex.map stripCi,
    ignoreCase := f.ignoreCase, lvlMin := f.lvlMin, lvlMax := f.lvlMax, lifecycles := f.lifecycles }

end Flt
