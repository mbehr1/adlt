import Adlt.Filter.Front
/-! C11: a filter serialised to JSON and loaded again is the same filter (`fromJson (toJson f) = some f`), for every filter
    the JSON front-end can produce whose literal ids are printable; and how the filters the three front-ends build from one
    abstract filter are related (`fromJson_fromDlf`, `fromDlf_list`). -/
namespace Flt

/-- a literal id that `Display for DltChar4` shows faithfully: printable ASCII, zero-padded to four bytes -/
def Showable (c : Option IdCrit) : Prop :=
  match c with
  | some (.lit b) => ∃ pre k, b = pre ++ List.replicate k 0 ∧ b.length = 4 ∧ ∀ x ∈ pre, 0x20 ≤ x.toNat ∧ x.toNat ≤ 0x7e
  | _ => True

theorem kindOf_kindNum (k : Kind) : kindOf (kindNum k) = some k := by cases k <;> rfl

/-- `Char.ofNat` keeps a number below 127 (any bound below the surrogate range would do: such a number is a valid code) -/
theorem char_small (n : Nat) (h : n < 127) : (Char.ofNat n).toNat = n := by
  have hv : n.isValidChar := Or.inl (Nat.lt_trans h (by decide))
  unfold Char.ofNat
  rw [dif_pos hv]
  rfl

theorem takeWhile_pre (pre : List UInt8) (k : Nat) (h : ∀ x ∈ pre, 0x20 ≤ x.toNat ∧ x.toNat ≤ 0x7e) :
    (pre ++ List.replicate k 0).takeWhile (· != 0) = pre := by
  have hne : ∀ x ∈ pre, (x != 0) = true := by
    intro x hx
    have := (h x hx).1
    -- `x != 0` is `!decide (x = 0)` and `true` is `!false` (`bne_iff_ne` would have `LawfulBEq UInt8` searched for at length)
    exact congrArg not (decide_eq_false fun h0 => by rw [h0] at this; exact absurd this (by decide))
  rw [List.takeWhile_append_of_pos hne, List.takeWhile_replicate]
  exact List.append_nil _

theorem char4_showId (b : List UInt8) (h : Showable (some (.lit b))) : char4 (showId b) = some b := by
  obtain ⟨pre, k, rfl, hl, hp⟩ := h
  -- a printable byte is shown as the character with its code, and that is ASCII
  have hbyte : ∀ x ∈ pre, (if x.toNat < 0x20 then '-' else if x.toNat > 0x7e then '?' else Char.ofNat x.toNat)
      = Char.ofNat x.toNat ∧ (Char.ofNat x.toNat).toNat = x.toNat := by
    intro x hx
    obtain ⟨h1, h2⟩ := hp x hx
    exact ⟨by rw [if_neg (Nat.not_lt.mpr h1), if_neg (Nat.not_lt.mpr h2)], char_small _ (Nat.lt_succ_of_le h2)⟩
  have hall : ((pre.map fun x => Char.ofNat x.toNat).all fun c => c.toNat < 128) = true :=
    List.all_eq_true.mpr fun c hc => by
      obtain ⟨x, hx, rfl⟩ := List.mem_map.mp hc
      rw [(hbyte x hx).2]; exact decide_eq_true (Nat.lt_of_le_of_lt (hp x hx).2 (by decide))
  have hback : pre.map ((fun c => UInt8.ofNat c.toNat) ∘ fun x => Char.ofNat x.toNat) = pre := by
    rw [List.map_congr_left (g := id) fun x hx => by
      rw [Function.comp_apply, (hbyte x hx).2]; exact UInt8.ofNat_toNat, List.map_id]
  have hlen : pre.length + k = 4 := by rw [List.length_append, List.length_replicate] at hl; exact hl
  unfold showId char4
  rw [takeWhile_pre pre k hp, List.map_congr_left fun x hx => (hbyte x hx).1, String.toList_ofList, if_pos hall,
    List.map_map, hback, List.take_of_length_le (Nat.le.intro hlen)]
  show some (pre ++ List.replicate (4 - pre.length) 0) = _
  rw [← hlen, Nat.add_sub_cancel_left]

/-- a regular-expression id comes only from a pattern that compiles -/
theorem idCrit_re (reOk : String → Bool) (s : String) (flag : Option Bool) (p : String)
    (h : idCrit reOk s flag = some (.re p)) : reOk p = true := by
  unfold idCrit at h
  by_cases hre : flag.getD (containsRegexChars s) = true
  · rw [if_pos hre] at h
    by_cases hok : reOk s = true
    · rw [if_pos hok] at h; cases h; exact hok
    · rw [if_neg hok] at h; cases h
  · rw [if_neg hre] at h
    cases hc : char4 s <;> rw [hc] at h <;> cases h

theorem jId_roundtrip (reOk : String → Bool) (s : Option String) (flag : Option Bool) (c : Option IdCrit)
    (h : jId reOk s flag = some c) (hs : Showable c) : jId reOk (idOut c).1 (idOut c).2 = some c := by
  cases c with
  | none => rfl
  | some c =>
    cases c with
    | lit b =>
      simp only [idOut, jId, idCrit, Option.getD_some, Bool.false_eq_true, if_false]
      rw [char4_showId b hs]; rfl
    | re p =>
      -- written back with `…IsRegex` true, the pattern is compiled again: it compiled when `c` was made
      cases s with
      | none => cases h
      | some s =>
        obtain ⟨c', hc', hcc⟩ := Option.map_eq_some_iff.mp (h : (idCrit reOk s flag).map some = _)
        cases hcc
        show (if true = true then (if reOk p = true then some (IdCrit.re p) else none) else _).map some = _
        rw [if_pos rfl, if_pos (idCrit_re reOk s flag p hc')]
        rfl

/-- an id given as a literal (`…IsRegex` false) is read by the JSON front-end as the four bytes the other front-ends take -/
theorem jId_literal (reOk : String → Bool) (s : Option String) (flag : Option Bool) (hf : ∀ x, s = some x → flag = some false) :
    (jId reOk s flag).getD none = s.bind fun x => (char4 x).map IdCrit.lit := by
  cases s with
  | none => rfl
  | some x =>
    -- unfolded by name (a `show` has the unifier evaluate `char4 x`): `(((char4 x).map .lit).map some).getD none` is left
    rw [hf x rfl, jId, idCrit, Option.getD_some, if_neg Bool.false_ne_true, Option.bind_some]
    cases char4 x <;> rfl

theorem listIdOk_literal {x : String} {flag : Option Bool} (hx : listIdOk (some x) flag = true) : flag = some false := by
  unfold listIdOk at hx
  rcases flag with _ | _ | _
  · cases hx  -- `none`
  · rfl  -- `some false`
  · cases hx  -- `some true`

/-- Where the JSON front-end succeeds it builds the filter of the DLF front-end except in five fields: four that `dlfExpressible`
    restricts, and `ignoreCase`, which the matcher does not read. (`kind` and the other optional criteria agree because
    the DLF front-end drops what the JSON front-end rejects.) -/
theorem fromJson_fromDlf (reOk : String → Bool) (a : AFilter) (f : Filter) (h : fromJson reOk a = some f) :
    f = { fromDlf reOk a with
          negate := a.negate, ecu := (jId reOk a.ecu a.ecuRe).getD none, vmm := vmmOf a, ignoreCase := a.ignoreCase,
          lifecycles := a.lifecycles } := by
  unfold fromJson at h
  split at h
  · cases h
    unfold fromDlf
    -- the seven match equations turn each `(j… a).getD _` into the value the JSON front-end took
    simp only [*]
    rfl
  · cases h

/-- on the fragment a dlt-viewer filter can express, the two front-ends build the same filter but for `ignoreCase` -/
theorem fromJson_dlfExpressible (reOk : String → Bool) (a : AFilter) (f : Filter) (hx : dlfExpressible a = true)
    (hj : fromJson reOk a = some f) : f = { fromDlf reOk a with ignoreCase := a.ignoreCase } := by
  simp only [dlfExpressible, Bool.and_eq_true, Bool.not_eq_true', Option.isNone_iff_eq_none, Bool.or_eq_true,
    decide_eq_true_eq, beq_iff_eq] at hx
  obtain ⟨⟨⟨⟨⟨hneg, hlcs⟩, hvmm⟩, hmstp⟩, _hk⟩, hecu⟩ := hx
  have hv : vmmOf a = (fromDlf reOk a).vmm := by
    unfold vmmOf fromDlf
    rw [hvmm]
    rcases hmstp with h | h
    · rw [h]; rfl
    · rw [h]; rfl
  -- of the five fields in which the two filters differ, four are restricted
  rw [fromJson_fromDlf reOk a f hj, hneg, hlcs, hv, jId_literal reOk _ _ fun x hx => by rw [hx] at hecu; simpa using hecu]
  rfl

/-- the list format is a part of the DLF format, and there the two front-ends build the same filter -/
theorem fromDlf_list (reOk : String → Bool) (a : AFilter) (hx : listExpressible a = true) :
    dlfExpressible a = true ∧ fromDlf reOk a = fromList a := by
  cases a
  simp only [listExpressible, Bool.and_eq_true, Bool.not_eq_true', Option.isNone_iff_eq_none, beq_iff_eq] at hx
  -- all fields but the two ids have their default value (`ecuRe`, `ignoreCase` are free, and without effect when there is no `ecu`, `payload`)
  obtain ⟨⟨⟨⟨⟨⟨⟨⟨⟨⟨⟨⟨rfl, rfl⟩, rfl⟩, rfl⟩, hap⟩, hct⟩, rfl⟩, rfl⟩, rfl⟩, rfl⟩, rfl⟩, rfl⟩, rfl⟩ := hx
  refine ⟨rfl, ?_⟩
  dsimp only [fromDlf]
  rw [jId_literal reOk _ _ fun x hx => listIdOk_literal (hx ▸ hap), jId_literal reOk _ _ fun x hx => listIdOk_literal (hx ▸ hct)]
  rfl

/-- `to_json` writes a type criterion with mask 14 (message type only) as `mstp`, any other as `verb_mstp_mtin` -/
theorem vmmOf_toJson (f : Filter) : vmmOf (toJson f) = match f.vmm with
    | some (v, mask) =>
      if mask == 14 then some (mstpOf v % 8 * 2, 14) else some (v % 256, if mtinOf (v % 256) == 0 then 15 else 255)
    | none => none := by
  unfold vmmOf toJson
  cases f.vmm with
  | none => rfl
  | some p =>
    obtain ⟨v, mask⟩ := p
    dsimp only
    cases mask == 14 <;> rfl

theorem vmm_roundtrip (a : AFilter) (f : Filter) (hf : f.vmm = vmmOf a) : vmmOf (toJson f) = vmmOf a := by
  rw [vmmOf_toJson, hf]
  unfold vmmOf
  cases a.vmm with
  | some v =>
    dsimp only
    rw [Nat.mod_mod]
    cases mtinOf (v % 256) == 0 <;> rfl  -- the mask is 15 or 255, not 14
  | none =>
    cases a.mstp with
    | some m =>
      dsimp only
      -- `mstpOf (m % 8 * 2) % 8 * 2 = m % 8 * 2`: halving undoes the doubling; the mask is 14
      unfold mstpOf
      rw [Nat.mul_div_cancel _ Nat.two_pos, Nat.mod_mod, Nat.mod_mod]
      rfl
    | none => rfl

theorem stripCi_prefix (p : String) : stripCiOf true ("(?i)" ++ p) = p := by
  unfold stripCiOf
  rw [String.toList_append, show "(?i)".toList = ['(', '?', 'i', ')'] from String.toList_ofList]
  exact String.ofList_toList  -- the test and the `drop 4` compute on the four characters in front

/-- the pattern `from_json` keeps is the one it compiled: the given one, behind `(?i)` for a case-insensitive filter -/
theorem jPlre_iff (reOk : String → Bool) (a : AFilter) (r : Option String) :
    jPlre reOk a = some r ↔
      r = a.payloadRegex.map (fun p => if a.ignoreCase then "(?i)" ++ p else p) ∧ ∀ p ∈ r, reOk p = true := by
  unfold jPlre
  cases a.payloadRegex with
  | none => exact ⟨fun h => by cases h; exact ⟨rfl, fun _ hp => by cases hp⟩, fun h => by rw [h.1]; rfl⟩
  | some p =>
    simp only [Option.map_some]
    generalize (if a.ignoreCase = true then "(?i)" ++ p else p) = q
    by_cases hok : reOk q = true
    · rw [if_pos hok]
      exact ⟨fun h => by cases h; exact ⟨rfl, fun _ hq => by cases hq; exact hok⟩, fun h => by rw [h.1]⟩
    · rw [if_neg hok]
      exact ⟨fun h => (by cases h), fun h => absurd (h.2 q (by rw [h.1]; rfl)) hok⟩

theorem plre_roundtrip (reOk : String → Bool) (a : AFilter) (r : Option String) (h : jPlre reOk a = some r)
    (a' : AFilter) (h1 : a'.payloadRegex = r.map (stripCiOf a.ignoreCase)) (h2 : a'.ignoreCase = a.ignoreCase) :
    jPlre reOk a' = some r := by
  obtain ⟨hr, hok⟩ := (jPlre_iff reOk a r).mp h
  refine (jPlre_iff reOk a' r).mpr ⟨?_, hok⟩
  rw [h1, h2, hr, Option.map_map, Option.map_map]
  -- stripping the prefix and putting it back gives the compiled pattern again
  cases a.payloadRegex with
  | none => rfl
  | some p =>
    cases a.ignoreCase
    · simp [stripCiOf]
    · simp only [Option.map_some, Function.comp_apply, if_true, stripCi_prefix]

theorem lvl_roundtrip (l r : Option Nat) (h : jLvl l = some r) : jLvl r = some r := by
  unfold jLvl at h ⊢
  cases l with
  | none => cases h; rfl
  | some v =>
    simp only [] at h  -- reduces the `match` on `some v`
    by_cases hv : v ≤ 6
    · rw [if_pos hv] at h; cases h; exact if_pos hv
    · rw [if_neg hv] at h; cases h

/-- what `fromJson reOk a = some f` says, field by field -/
structure Loads (reOk : String → Bool) (a : AFilter) (f : Filter) : Prop where
  kind : kindOf a.kind = some f.kind
  ecu : jId reOk a.ecu a.ecuRe = some f.ecu
  apid : jId reOk a.apid a.apidRe = some f.apid
  ctid : jId reOk a.ctid a.ctidRe = some f.ctid
  plre : jPlre reOk a = some f.payloadRegex
  lvlMin : jLvl a.lvlMin = some f.lvlMin
  lvlMax : jLvl a.lvlMax = some f.lvlMax
  enabled : f.enabled = a.enabled
  negate : f.negate = a.negate
  vmm : f.vmm = vmmOf a
  payload : f.payload = if a.payloadRegex.isSome then none else a.payload
  payloadCi : f.payloadCi = (a.payloadRegex.isNone && a.payload.isSome && a.ignoreCase)
  ignoreCase : f.ignoreCase = a.ignoreCase
  lifecycles : f.lifecycles = a.lifecycles

theorem fromJson_iff (reOk : String → Bool) (a : AFilter) (f : Filter) : fromJson reOk a = some f ↔ Loads reOk a f := by
  unfold fromJson
  constructor
  · intro h
    split at h
    · rename_i h1 h2 h3 h4 h5 h6 h7
      cases h
      -- the seven match equations, the other seven fields are copied
      exact ⟨h1, h2, h3, h4, h5, h6, h7, rfl, rfl, rfl, rfl, rfl, rfl, rfl⟩
    · cases h
  · intro l
    rw [l.kind, l.ecu, l.apid, l.ctid, l.plre, l.lvlMin, l.lvlMax, ← l.enabled, ← l.negate, ← l.vmm, ← l.payload, ← l.payloadCi,
      ← l.ignoreCase, ← l.lifecycles]

/-- **JSON fixpoint**: a filter the JSON front-end produced, written with `to_json` and loaded again, is the same filter,
    provided its literal ids are printable -/
theorem json_fixpoint (reOk : String → Bool) (a : AFilter) (f : Filter) (h : fromJson reOk a = some f)
    (hs : Showable f.ecu ∧ Showable f.apid ∧ Showable f.ctid) : fromJson reOk (toJson f) = some f := by
  have l := (fromJson_iff reOk a f).mp h
  have hre : f.payloadRegex.isSome = a.payloadRegex.isSome := by
    rw [((jPlre_iff reOk a _).mp l.plre).1, Option.isSome_map]
  refine (fromJson_iff reOk _ f).mpr
    { kind := kindOf_kindNum _
      ecu := jId_roundtrip reOk _ _ _ l.ecu hs.1
      apid := jId_roundtrip reOk _ _ _ l.apid hs.2.1
      ctid := jId_roundtrip reOk _ _ _ l.ctid hs.2.2
      plre := plre_roundtrip reOk a _ l.plre _ (congrArg (fun ic => f.payloadRegex.map (stripCiOf ic)) l.ignoreCase) l.ignoreCase
      lvlMin := lvl_roundtrip _ _ l.lvlMin
      lvlMax := lvl_roundtrip _ _ l.lvlMax
      enabled := rfl, negate := rfl, ignoreCase := rfl, lifecycles := rfl
      vmm := l.vmm.trans (vmm_roundtrip a f l.vmm).symm
      payload := ?_, payloadCi := ?_ }
  · show f.payload = if (f.payloadRegex.map _).isSome then none else if f.payloadRegex.isSome then none else f.payload
    rw [Option.isSome_map, l.payload, ← hre]
    cases f.payloadRegex.isSome <;> rfl
  · dsimp only [toJson]  -- `payloadCi` of `toJson f`: no regex && a payload && `ignoreCase`
    have hnone : f.payloadRegex.isNone = a.payloadRegex.isNone := by rw [← Option.not_isSome, hre, Option.not_isSome]
    rw [l.payloadCi, l.payload, l.ignoreCase, Option.isNone_map, hnone, hre]
    cases a.payloadRegex <;> rfl

end Flt
