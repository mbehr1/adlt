import Adlt.Sort.Spec
import Adlt.Lc.Listing
/-! C10, permutation part: for every stream, table and configuration the output is a permutation of the input. -/
namespace Srt

def SSt.seq (s : SSt) : List SMsg := s.out.reverse ++ s.heap.map (·.2)

/-- the heap insertion is the generic stable insertion -/
theorem insertSorted_eq (x : Nat × SMsg) (l : List (Nat × SMsg)) :
    insertSorted x l = Lcm.insertBy (fun y x => !keyLt x y) x l := by
  induction l with
  | nil => rfl
  | cons y t ih => unfold insertSorted Lcm.insertBy; rw [ih]; cases keyLt x y <;> rfl

theorem insertSorted_perm (x : Nat × SMsg) (l : List (Nat × SMsg)) : (insertSorted x l).Perm (x :: l) := by
  rw [insertSorted_eq]; exact Lcm.insertBy_perm _ x l

theorem mem_insertSorted (x y : Nat × SMsg) (l : List (Nat × SMsg)) : y ∈ insertSorted x l ↔ y = x ∨ y ∈ l := by
  rw [insertSorted_eq]; exact Lcm.mem_insertBy _ x y l

/-- the release loop in closed form: it emits the longest prefix of due entries and keeps the rest -/
theorem releaseLoop_eq (r : Nat) (l : List (Nat × SMsg)) (s : SSt) :
    releaseLoop r s l =
      { s with out := ((l.takeWhile fun p => p.1 + s.T < r).map (·.2)).reverse ++ s.out,
               heap := l.dropWhile fun p => p.1 + s.T < r } := by
  fun_induction releaseLoop r s l with
  | case1 => rfl
  | case2 s c m t hc ih =>
    rw [ih, List.takeWhile_cons_of_pos (by exact decide_eq_true hc), List.dropWhile_cons_of_pos (by exact decide_eq_true hc),
      List.map_cons, List.reverse_cons, List.append_assoc]
    rfl
  | case3 s c m t hc =>
    rw [List.takeWhile_cons_of_neg (by exact mt of_decide_eq_true hc), List.dropWhile_cons_of_neg (by exact mt of_decide_eq_true hc)]
    rfl

theorem releaseLoop_seq (r : Nat) (l : List (Nat × SMsg)) (s : SSt) :
    (releaseLoop r s l).seq = s.out.reverse ++ l.map (·.2) := by
  rw [releaseLoop_eq, SSt.seq]
  show (_ ++ s.out).reverse ++ _ = _
  rw [List.reverse_append, List.reverse_reverse, List.append_assoc, ← List.map_append, List.takeWhile_append_dropWhile]

theorem insert_seq (table : List (Nat × Nat)) (w d : Nat) (s : SSt) (m : SMsg) :
    (s.insert table w d m).seq = s.out.reverse ++ (insertSorted (s.calc table m, m) s.heap).map (·.2) := rfl

theorem insert_heap (table : List (Nat × Nat)) (w d : Nat) (s : SSt) (m : SMsg) :
    (s.insert table w d m).heap = insertSorted (s.calc table m, m) s.heap := rfl

theorem step_seq (table : List (Nat × Nat)) (w d : Nat) (s : SSt) (m : SMsg) :
    (s.step table w d m).seq.Perm (s.seq ++ [m]) := by
  unfold SSt.step
  simp only []  -- the `let` of `SSt.step`
  rw [releaseLoop_seq, ← SSt.seq, insert_seq]
  have h := (insertSorted_perm (s.calc table m, m) s.heap).map (·.2)
  simp only [List.map_cons] at h
  refine (List.Perm.append_left _ h).trans ?_
  simp only [SSt.seq]
  rw [List.append_assoc]
  exact List.Perm.append_left _ (List.perm_append_singleton m _).symm

theorem finish_out (s : SSt) : s.finish.out.reverse = s.seq := by
  simp [SSt.finish, SSt.seq]

theorem runSort_perm (table : List (Nat × Nat)) (w d : Nat) (ms : List SMsg) :
    (runSort table w d ms).Perm ms := by
  unfold runSort
  rw [finish_out]
  simpa [SSt.seq] using Lcm.foldl_perm (g := SSt.seq) (step_seq table w d) ms { T := d }

end Srt
