import Adlt.Sort.Perm
/-! C10, ordering part: under bounded buffering delay the output is sorted by (calculated time, arrival number). -/
namespace Srt

/-- calculated time, then arrival number: `Spec.keyLe` as a proposition -/
def KeyLe (table : List (Nat × Nat)) (a b : SMsg) : Prop := Lcm.LexLe (calcTime table a) a.seq (calcTime table b) b.seq

/-! ### `keyLt` is the strict order of the pairs (stored time, arrival number); on heap entries that carry the calculated
    time of their message it decides the order of the messages -/

theorem keyLt_iff (a b : Nat × SMsg) : keyLt a b = true ↔ a.1 < b.1 ∨ (a.1 = b.1 ∧ a.2.seq < b.2.seq) := by
  simp only [keyLt, Bool.or_eq_true, Bool.and_eq_true, decide_eq_true_eq, beq_iff_eq]

theorem lexLe_of_keyLt {a b : Nat × SMsg} (h : keyLt a b = true) : Lcm.LexLe a.1 a.2.seq b.1 b.2.seq :=
  ((keyLt_iff a b).mp h).imp id fun h => ⟨h.1, Nat.le_of_lt h.2⟩

theorem lexLe_of_not_keyLt {a b : Nat × SMsg} (h : ¬ keyLt a b = true) : Lcm.LexLe b.1 b.2.seq a.1 a.2.seq := by
  rw [keyLt_iff] at h
  rcases Nat.lt_trichotomy a.1 b.1 with h1 | h1 | h1
  · exact absurd (.inl h1) h
  · exact .inr ⟨h1.symm, Nat.le_of_not_lt fun h2 => h (.inr ⟨h1, h2⟩)⟩
  · exact .inl h1

theorem insertSorted_sorted (table : List (Nat × Nat)) (x : Nat × SMsg) (l : List (Nat × SMsg))
    (hx : x.1 = calcTime table x.2) (hk : ∀ h ∈ l, h.1 = calcTime table h.2)
    (hs : (l.map (·.2)).Pairwise (KeyLe table)) : ((insertSorted x l).map (·.2)).Pairwise (KeyLe table) := by
  rw [List.pairwise_map] at hs ⊢
  rw [insertSorted_eq]
  refine Lcm.insertBy_pairwise _ _ x l hs (fun y hy e => ?_) (fun y hy e => ?_) (fun _ _ _ _ => Lcm.LexLe.trans)
  · rw [KeyLe, ← hx, ← hk y hy]; exact lexLe_of_not_keyLt (by simpa using e)
  · rw [KeyLe, ← hx, ← hk y hy]; exact lexLe_of_keyLt (by simpa using e)

/-! ### the lifecycle-start cache never disagrees with the (static) table -/

def CacheOk (table : List (Nat × Nat)) (c : List (Nat × Nat)) : Prop :=
  ∀ k v, aGet k c = some v → v = (aGet k table).getD 0

theorem aGet_cons {α} (k : Nat) (p : Nat × α) (t : List (Nat × α)) :
    aGet k (p :: t) = if p.1 = k then some p.2 else aGet k t :=
  ite_congr (Nat.beq_eq_true_eq p.1 k) (fun _ => rfl) fun _ => rfl

theorem aSet_cons {α} (k : Nat) (v : α) (p : Nat × α) (t : List (Nat × α)) :
    aSet k v (p :: t) = if p.1 = k then (k, v) :: t else p :: aSet k v t :=
  ite_congr (Nat.beq_eq_true_eq p.1 k) (fun _ => rfl) fun _ => rfl

theorem aGet_aSet {α} (k k' : Nat) (v : α) (l : List (Nat × α)) :
    aGet k' (aSet k v l) = if k' = k then some v else aGet k' l := by
  induction l with
  | nil => exact (aGet_cons k' (k, v) []).trans (ite_congr (propext eq_comm) (fun _ => rfl) fun _ => rfl)
  | cons p t ih =>
    rw [aSet_cons, aGet_cons]
    by_cases hp : p.1 = k
    · rw [if_pos hp, aGet_cons]
      by_cases h : k' = k
      · simp [h]
      · simp [h, Ne.symm h, hp]
    · rw [if_neg hp, aGet_cons, ih]
      by_cases h : p.1 = k'
      · subst h; simp [hp]
      · simp [h]

theorem cacheAfter_ok (table : List (Nat × Nat)) (s : SSt) (m : SMsg) (h : CacheOk table s.lcCache) :
    CacheOk table (s.cacheAfter table m) := by
  unfold SSt.cacheAfter
  split
  · exact h
  · split
    · exact h
    · intro k v hk
      rw [aGet_aSet] at hk
      by_cases hkk : k = m.lc
      · rw [if_pos hkk] at hk; cases hk; rw [hkk]
      · rw [if_neg hkk] at hk; exact h k v hk

theorem calc_eq (table : List (Nat × Nat)) (s : SSt) (m : SMsg) (h : CacheOk table s.lcCache) :
    s.calc table m = calcTime table m := by
  have hl : s.lcStart table m = (aGet m.lc table).getD 0 := by
    unfold SSt.lcStart
    split
    · next t ht => exact h _ _ ht
    · rfl
  unfold SSt.calc calcTime
  rw [hl]
  cases m.ctrlReq
  · rfl
  · exact ite_self _  -- a control request: the reception time, capped at itself

/-- released messages and heap, read as one sequence (`SSt.seq`), are in order; what was released lies more than the
    minimum delay before the last reception time `R` -/
structure OInv (table : List (Nat × Nat)) (d R : Nat) (s : SSt) : Prop where
  cache : CacheOk table s.lcCache
  T : d ≤ s.T
  hkey : ∀ h ∈ s.heap, h.1 = calcTime table h.2
  sorted : s.seq.Pairwise (KeyLe table)
  outB : ∀ e ∈ s.out, calcTime table e + d < R

theorem newT_ge (w d : Nat) (s : SSt) (m : SMsg) (ct : Nat) (h : d ≤ s.T) : d ≤ (s.newT w d m ct).2 := by
  unfold SSt.newT
  simp only []  -- the `let`s of `SSt.newT`
  split
  · exact Nat.le_add_right _ _
  · exact h

/-- a message released more than `d` before `R` lies before one that arrives at `r ≥ R` at most `d` late -/
theorem released_lt {ca cm d R r : Nat} (h1 : ca + d < R) (h2 : R ≤ r) (h3 : r - cm ≤ d) : ca < cm := by
  have h4 : r ≤ d + cm := Nat.sub_le_iff_le_add.mp h3
  have h5 : ca + d < cm + d := Nat.add_comm d cm ▸ Nat.lt_of_lt_of_le (Nat.lt_of_lt_of_le h1 h2) h4
  exact Nat.lt_of_add_lt_add_right h5

/-- the insertion: `m` lies behind everything released, since that is more than `d` before `R ≤ m.recv` -/
theorem insert_inv (table : List (Nat × Nat)) (w d R : Nat) (s : SSt) (m : SMsg) (hi : OInv table d R s)
    (hR : R ≤ m.recv) (hd : m.recv - calcTime table m ≤ d) : OInv table d R (s.insert table w d m) := by
  have hkey1 : ∀ h ∈ insertSorted (calcTime table m, m) s.heap, h.1 = calcTime table h.2 := by
    intro h hh
    rcases (mem_insertSorted _ _ _).mp hh with h1 | h1
    · subst h1; rfl
    · exact hi.hkey h h1
  have h0 := hi.sorted
  rw [SSt.seq, List.pairwise_append] at h0
  refine { cache := cacheAfter_ok table s m hi.cache, T := newT_ge w d s m (s.calc table m) hi.T, hkey := ?_, sorted := ?_,
           outB := hi.outB }
  · rw [insert_heap, calc_eq table s m hi.cache]; exact hkey1
  · rw [insert_seq, calc_eq table s m hi.cache, List.pairwise_append]
    refine ⟨h0.1, insertSorted_sorted table _ _ rfl hi.hkey h0.2.1, ?_⟩
    intro a ha b hb
    obtain ⟨p, hp, rfl⟩ := List.mem_map.mp hb
    rcases (mem_insertSorted _ _ _).mp hp with h1 | h1
    · subst h1
      exact .inl (released_lt (hi.outB a (List.mem_reverse.mp ha)) hR hd)
    · exact h0.2.2 a ha p.2 (List.mem_map_of_mem h1)

/-- the release leaves the sequence as it is; what it emits was due, i.e. lies more than the threshold `T ≥ d` before `r` -/
theorem release_inv (table : List (Nat × Nat)) (d R r : Nat) (s : SSt) (hi : OInv table d R s) (hR : R ≤ r) :
    OInv table d r (releaseLoop r s s.heap) := by
  refine { cache := ?_, T := ?_, hkey := ?_, sorted := by rw [releaseLoop_seq]; exact hi.sorted, outB := ?_ }
  · rw [releaseLoop_eq]; exact hi.cache
  · rw [releaseLoop_eq]; exact hi.T
  · rw [releaseLoop_eq]; exact fun h hh => hi.hkey h ((List.dropWhile_sublist _).subset hh)
  · rw [releaseLoop_eq]
    intro e he
    rcases List.mem_append.mp he with he | he
    · obtain ⟨p, hp, rfl⟩ := List.mem_map.mp (List.mem_reverse.mp he)
      have hdue : p.1 + s.T < r := of_decide_eq_true (List.all_eq_true.mp List.all_takeWhile p hp)
      rw [hi.hkey p ((List.takeWhile_sublist _).subset hp)] at hdue
      exact Nat.lt_of_le_of_lt (Nat.add_le_add_left hi.T _) hdue
    · exact Nat.lt_of_lt_of_le (hi.outB e he) hR

theorem step_inv (table : List (Nat × Nat)) (w d R : Nat) (s : SSt) (m : SMsg)
    (hi : OInv table d R s) (hR : R ≤ m.recv) (hd : m.recv - calcTime table m ≤ d) :
    OInv table d m.recv (s.step table w d m) :=
  release_inv table d R m.recv _ (insert_inv table w d R s m hi hR hd) hR

theorem recvMonotone_cons {m : SMsg} {t : List SMsg} (h : Spec.recvMonotone (m :: t) = true) :
    (∀ x ∈ t.head?, m.recv ≤ x.recv) ∧ Spec.recvMonotone t = true := by
  cases t with
  | nil => exact ⟨fun _ hx => (by cases hx), rfl⟩
  | cons b u =>
    simp only [Spec.recvMonotone, Bool.and_eq_true, decide_eq_true_eq] at h
    exact ⟨fun x hx => (by cases hx; exact h.1), h.2⟩

theorem steps_sorted (table : List (Nat × Nat)) (w d : Nat) (ms : List SMsg) (R : Nat) (s : SSt)
    (hi : OInv table d R s) (hR : ∀ x ∈ ms.head?, R ≤ x.recv) (hm : Spec.recvMonotone ms = true)
    (hd : Spec.delayBounded table d ms = true) :
    (ms.foldl (SSt.step table w d) s).seq.Pairwise (KeyLe table) := by
  induction ms generalizing R s with
  | nil => exact hi.sorted
  | cons m t ih =>
    obtain ⟨h1, h2⟩ := recvMonotone_cons hm
    simp only [Spec.delayBounded, List.all_cons, Bool.and_eq_true, decide_eq_true_eq] at hd
    exact ih m.recv _ (step_inv table w d R s m hi (hR m rfl) hd.1) h1 h2 hd.2

theorem sortedByCalc_of_pairwise (table : List (Nat × Nat)) (l : List SMsg) (h : l.Pairwise (KeyLe table)) :
    Spec.sortedByCalc table l = true := by
  induction l with
  | nil => rfl
  | cons a t ih =>
    cases t with
    | nil => rfl
    | cons b t2 =>
      rw [List.pairwise_cons] at h
      -- `Spec.keyLe` read as a proposition is `KeyLe`
      simp only [Spec.sortedByCalc, Spec.keyLe, Bool.and_eq_true, Bool.or_eq_true, decide_eq_true_eq, beq_iff_eq]
      exact ⟨h.1 b List.mem_cons_self, ih h.2⟩

/-- reception times never decrease and no calculated time lies more than `d` before its reception time: the output is
    in (calculated time, arrival number) order, whatever the arrival numbers are -/
theorem runSort_sorted (table : List (Nat × Nat)) (w d : Nat) (ms : List SMsg)
    (hm : Spec.recvMonotone ms = true) (hd : Spec.delayBounded table d ms = true) :
    Spec.sortedByCalc table (runSort table w d ms) = true := by
  have init : OInv table d 0 ({ T := d } : SSt) :=
    { cache := fun _ _ hk => (nomatch hk), T := Nat.le_refl _, hkey := List.forall_mem_nil _, sorted := List.Pairwise.nil,
      outB := List.forall_mem_nil _ }
  unfold runSort
  rw [finish_out]
  exact sortedByCalc_of_pairwise table _ (steps_sorted table w d ms 0 _ init (fun _ _ => Nat.zero_le _) hm hd)

end Srt
