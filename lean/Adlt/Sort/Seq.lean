import Adlt.Sort.Order
import Adlt.Sort.Perm
/-! C10: `buffer_sort_messages` numbers the messages as they arrive and breaks ties of the calculated time by that
    number, so the ordering part needs no assumption about the messages' own indices. -/
namespace Srt

def SMsg.clearSeq (m : SMsg) : SMsg := { m with seq := 0 }

theorem calcTime_seq (table : List (Nat × Nat)) (m : SMsg) (k : Nat) : calcTime table { m with seq := k } = calcTime table m := rfl

theorem number_clear (k : Nat) (ms : List SMsg) : (number k ms).map SMsg.clearSeq = ms.map SMsg.clearSeq := by
  induction ms generalizing k with
  | nil => rfl
  | cons m t ih => simp only [number, List.map_cons, ih]; rfl

theorem number_seq_ge (k : Nat) (ms : List SMsg) : ∀ m ∈ number k ms, k ≤ m.seq := by
  fun_induction number k ms with
  | case1 => exact List.forall_mem_nil _
  | case2 k a t ih => exact List.forall_mem_cons.mpr ⟨Nat.le_refl k, fun m hm => Nat.le_of_succ_le (ih m hm)⟩

theorem number_seqIncreasing (k : Nat) (ms : List SMsg) : Spec.seqIncreasing (number k ms) = true := by
  induction ms generalizing k with
  | nil => rfl
  | cons a t ih =>
    cases t with
    | nil => rfl
    | cons b u =>
      have h2 := ih (k + 1)
      simp only [number] at h2 ⊢
      simp only [Spec.seqIncreasing, Bool.and_eq_true, decide_eq_true_eq]
      exact ⟨Nat.lt_succ_self k, h2⟩

theorem number_recvMonotone (k : Nat) (ms : List SMsg) : Spec.recvMonotone (number k ms) = Spec.recvMonotone ms := by
  induction ms generalizing k with
  | nil => rfl
  | cons a t ih =>
    cases t with
    | nil => rfl
    | cons b u =>
      have h2 := ih (k + 1)
      simp only [number] at h2 ⊢
      simp only [Spec.recvMonotone, h2]

theorem number_delayBounded (table : List (Nat × Nat)) (d k : Nat) (ms : List SMsg) :
    Spec.delayBounded table d (number k ms) = Spec.delayBounded table d ms := by
  induction ms generalizing k with
  | nil => rfl
  | cons a t ih =>
    unfold Spec.delayBounded at ih ⊢
    rw [number, List.all_cons, List.all_cons, ih, calcTime_seq]

/-- the stated premise of the ordering part: reception times never decrease, every delay within the minimum buffering delay -/
def Spec.premise (table : List (Nat × Nat)) (minDelay : Nat) (ms : List SMsg) : Bool :=
  Spec.recvMonotone ms && Spec.delayBounded table minDelay ms

end Srt
