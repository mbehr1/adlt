import Adlt.Gen.Consts
/-! Model of `buffer_sort_messages` (src/utils/mod.rs): min-heap as a list kept sorted by (calculated time, arrival number),
    lifecycle-start cache (first sight wins), per-ECU sliding window of maximum buffering delays. -/
namespace Srt

structure SMsg where
  index : Nat             -- the message's own index: carried, not used by the sorter
  seq : Nat := 0          -- arrival number, handed out by `buffer_sort_messages`: the tie-break of the heap
  recv : Nat
  ecu : Nat
  lc : Nat
  tsUs : Nat
  ctrlReq : Bool
deriving Repr, DecidableEq

structure WEntry where
  start : Nat
  maxDelay : Nat
deriving Repr

structure EcuWin where
  lc : Nat
  win : List WEntry      -- front = head
  cur : Nat
deriving Repr

structure SSt where
  heap : List (Nat × SMsg) := []          -- sorted by (calc, seq)
  lcCache : List (Nat × Nat) := []
  wins : List (Nat × EcuWin) := []
  T : Nat
  out : List SMsg := []                   -- reversed
deriving Repr

def usPerSec : Nat := Gen.usPerSec

def aGet {α} (k : Nat) : List (Nat × α) → Option α
  | [] => none
  | (k', v) :: t => if k' == k then some v else aGet k t
def aSet {α} (k : Nat) (v : α) : List (Nat × α) → List (Nat × α)
  | [] => [(k, v)]
  | (k', v') :: t => if k' == k then (k, v) :: t else (k', v') :: aSet k v t

def keyLt (a b : Nat × SMsg) : Bool := a.1 < b.1 || (a.1 == b.1 && a.2.seq < b.2.seq)

def insertSorted (x : Nat × SMsg) : List (Nat × SMsg) → List (Nat × SMsg)
  | [] => [x]
  | y :: t => if keyLt x y then x :: y :: t else y :: insertSorted x t

def listMax (l : List Nat) : Nat := l.foldl max 0

/-- the window update for one ECU; returns new window and whether T must be recomputed -/
def EcuWin.update (w : Option EcuWin) (windowSecs lc recv delay : Nat) : EcuWin × Bool :=
  let e0 : EcuWin := w.getD { lc := lc, win := [], cur := 0 }
  let (e1, recalcT1) := if e0.lc != lc then ({ lc := lc, win := [], cur := delay : EcuWin }, true) else (e0, false)
  let insertNew := match e1.win.getLast? with
    | none => true
    | some b => b.start + usPerSec < recv
  if insertNew then
    let (win2, recalcD) := if e1.win.length == windowSecs then
        (e1.win.drop 1, (match e1.win.head? with | some f => f.maxDelay == e1.cur | none => false))
      else (e1.win, false)
    let win3 := win2 ++ [{ start := recv, maxDelay := delay }]
    let (cur3, recalcD3) := if delay > e1.cur then (delay, false) else (e1.cur, recalcD)
    let cur4 := if recalcD3 then listMax (win3.map (·.maxDelay)) else cur3
    ({ lc := lc, win := win3, cur := cur4 }, true)
  else
    match e1.win.getLast? with
    | none => (e1, recalcT1)
    | some b =>
      if b.maxDelay < delay then
        let win2 := e1.win.dropLast ++ [{ b with maxDelay := delay }]
        if delay > e1.cur then ({ e1 with win := win2, cur := delay }, true)
        else ({ e1 with win := win2 }, recalcT1)
      else (e1, recalcT1)

def winValue (windowSecs recv : Nat) (w : EcuWin) : Nat :=
  match w.win.head? with
  | some f => if f.start + (windowSecs - 1) * usPerSec > recv then 1000 * usPerSec else w.cur
  | none => w.cur

def SSt.emit (s : SSt) (m : SMsg) : SSt := { s with out := m :: s.out }

def releaseLoop (recv : Nat) : SSt → List (Nat × SMsg) → SSt
  | s, [] => { s with heap := [] }
  | s, (c, m) :: t => if c + s.T < recv then releaseLoop recv (s.emit m) t else { s with heap := (c, m) :: t }

/-- lifecycle start as the sorter sees it: cached value if present, else the table value (0 if unknown) -/
def SSt.lcStart (table : List (Nat × Nat)) (s : SSt) (m : SMsg) : Nat :=
  match aGet m.lc s.lcCache with
  | some t => t
  | none => (aGet m.lc table).getD 0

def SSt.cacheAfter (table : List (Nat × Nat)) (s : SSt) (m : SMsg) : List (Nat × Nat) :=
  if m.ctrlReq then s.lcCache else
  match aGet m.lc s.lcCache with
  | some _ => s.lcCache
  | none => aSet m.lc ((aGet m.lc table).getD 0) s.lcCache

/-- calculated time: lifecycle start + timestamp capped at the reception time; reception time for control requests -/
def SSt.calc (table : List (Nat × Nat)) (s : SSt) (m : SMsg) : Nat :=
  let ct0 := if m.ctrlReq then m.recv else s.lcStart table m + m.tsUs
  if ct0 > m.recv then m.recv else ct0

def SSt.newT (windowSecs minDelay : Nat) (s : SSt) (m : SMsg) (ct : Nat) : List (Nat × EcuWin) × Nat :=
  let r := EcuWin.update (aGet m.ecu s.wins) windowSecs m.lc m.recv (m.recv - ct)
  let wins' := aSet m.ecu r.1 s.wins
  (wins', if r.2 then minDelay + listMax (wins'.map fun p => winValue windowSecs m.recv p.2) else s.T)

/-- everything up to the insertion into the heap -/
def SSt.insert (table : List (Nat × Nat)) (windowSecs minDelay : Nat) (s : SSt) (m : SMsg) : SSt :=
  let ct := s.calc table m
  let wt := s.newT windowSecs minDelay m ct
  { s with lcCache := s.cacheAfter table m, wins := wt.1, T := wt.2, heap := insertSorted (ct, m) s.heap }

def SSt.step (table : List (Nat × Nat)) (windowSecs minDelay : Nat) (s : SSt) (m : SMsg) : SSt :=
  let s' := s.insert table windowSecs minDelay m
  releaseLoop m.recv s' s'.heap

def SSt.finish (s : SSt) : SSt := { s with out := (s.heap.map (·.2)).reverse ++ s.out, heap := [] }

/-- the arrival numbers `buffer_sort_messages` hands out: 0, 1, 2, … -/
def number (k : Nat) : List SMsg → List SMsg
  | [] => []
  | m :: t => { m with seq := k } :: number (k + 1) t

def runSort (table : List (Nat × Nat)) (windowSecs minDelay : Nat) (ms : List SMsg) : List SMsg :=
  ((ms.foldl (SSt.step table windowSecs minDelay) { T := minDelay }).finish).out.reverse

/-- `buffer_sort_messages`: number the messages as they arrive, sort -/
def runSortSeq (table : List (Nat × Nat)) (windowSecs minDelay : Nat) (ms : List SMsg) : List SMsg :=
  runSort table windowSecs minDelay (number 0 ms)
end Srt
