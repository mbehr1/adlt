import Adlt.Sort.Model
/-! Executable statement of C10. -/
namespace Srt

/-- calculated time of a message under a lifecycle table, as the sorter defines it: lifecycle start (first
    sight wins; 0 when the lifecycle is not in the table) plus timestamp, capped at the reception time;
    the reception time for control requests -/
def calcTime (table : List (Nat × Nat)) (m : SMsg) : Nat :=
  if m.ctrlReq then m.recv else
  let ct := (aGet m.lc table).getD 0 + m.tsUs
  if ct > m.recv then m.recv else ct

namespace Spec
def isPermIdx (inp out : List SMsg) : Bool :=
  inp.length == out.length && inp.all (fun m => inp.count m == out.count m)

def recvMonotone : List SMsg → Bool
  | a :: b :: t => a.recv ≤ b.recv && recvMonotone (b :: t)
  | _ => true
def seqIncreasing : List SMsg → Bool
  | a :: b :: t => a.seq < b.seq && seqIncreasing (b :: t)
  | _ => true
def delayBounded (table : List (Nat × Nat)) (minDelay : Nat) (ms : List SMsg) : Bool :=
  ms.all fun m => m.recv - calcTime table m ≤ minDelay
def keyLe (table : List (Nat × Nat)) (a b : SMsg) : Bool :=
  calcTime table a < calcTime table b || (calcTime table a == calcTime table b && a.seq ≤ b.seq)
def sortedByCalc (table : List (Nat × Nat)) : List SMsg → Bool
  | a :: b :: t => keyLe table a b && sortedByCalc table (b :: t)
  | _ => true
/-- `Spec.premise` (Sort/Seq.lean), the hypothesis of the ordering part, together with increasing arrival numbers -/
def orderingInRange (table : List (Nat × Nat)) (minDelay : Nat) (ms : List SMsg) : Bool :=
  recvMonotone ms && seqIncreasing ms && delayBounded table minDelay ms
end Spec
end Srt
