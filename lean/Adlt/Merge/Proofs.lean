import Adlt.Merge.Model
/-! C09: everything the merge acceptor accepts is a permutation of the sources that keeps each source's order,
    and is sorted by reception time when every source is; chaining is concatenation. -/
namespace Mrg

def key (m : MMsg) : Nat × Nat × Nat := (m.src, m.pos, m.recv)

/-- popping the head of a source is `List.set` of its tail -/
theorem popAt_eq_set (srcs : List (List MMsg)) (i : Nat) : popAt srcs i = srcs.set i ((srcs[i]?).getD []).tail := by
  fun_induction popAt srcs i with
  | case1 | case2 => rfl
  | case3 s t i ih => exact congrArg (s :: ·) ih

theorem set_flatten {srcs : List (List MMsg)} {i : Nat} {hd : MMsg} {tl : List MMsg} (hs : srcs[i]? = some (hd :: tl)) :
    srcs.flatten.Perm (hd :: (srcs.set i tl).flatten) := by
  induction srcs generalizing i with
  | nil => cases hs
  | cons s rest ih =>
    cases i with
    | zero => cases hs; exact .refl _
    | succ j => exact ((ih hs).append_left s).trans List.perm_middle

/-- the head test of `accepts`, as propositions; what is left of the sources, as `List.set` -/
theorem accepts_cons {srcs : List (List MMsg)} {m : MMsg} {out : List MMsg} (h : accepts srcs (m :: out) = true) :
    ∃ hd tl, srcs[m.src]? = some (hd :: tl) ∧ key hd = key m ∧ (∀ x ∈ heads srcs, m.recv ≤ x.recv)
      ∧ accepts (srcs.set m.src tl) out = true := by
  unfold accepts at h
  cases hs : srcs[m.src]? with
  | none => rw [hs] at h; cases h
  | some s =>
    rw [hs] at h
    cases s with
    | nil => cases h
    | cons hd tl =>
      simp only [Bool.and_eq_true, beq_iff_eq, List.all_eq_true, decide_eq_true_eq] at h
      obtain ⟨⟨⟨⟨h1, h2⟩, h3⟩, h4⟩, h5⟩ := h
      rw [popAt_eq_set, hs] at h5
      exact ⟨hd, tl, rfl, by simp [key, h1, h2, h3], h4, h5⟩

theorem head_mem_heads {srcs : List (List MMsg)} {i : Nat} {hd : MMsg} {tl : List MMsg} (hs : srcs[i]? = some (hd :: tl)) :
    hd ∈ heads srcs := List.mem_filterMap.mpr ⟨_, List.mem_of_getElem? hs, rfl⟩

theorem accepts_nil {srcs : List (List MMsg)} (h : accepts srcs [] = true) : ∀ s ∈ srcs, s = [] := by
  have hh : heads srcs = [] := by simpa [accepts] using h
  intro s hs
  cases s with
  | nil => rfl
  | cons x t =>
    have : x ∈ heads srcs := List.mem_filterMap.mpr ⟨x :: t, hs, rfl⟩
    rw [hh] at this; cases this

/-- every message of every source exactly once -/
theorem accepts_perm (srcs : List (List MMsg)) (out : List MMsg) (h : accepts srcs out = true) :
    (out.map key).Perm (srcs.flatten.map key) := by
  induction out generalizing srcs with
  | nil => rw [List.flatten_eq_nil_iff.mpr (accepts_nil h)]
  | cons m out ih =>
    obtain ⟨hd, tl, hs, hk, _, hrest⟩ := accepts_cons h
    have p1 := (set_flatten hs).map key
    simp only [List.map_cons] at p1 ⊢
    rw [← hk]
    exact (List.Perm.cons (key hd) (ih _ hrest)).trans p1.symm

/-- sources are tagged with their position in the family -/
def Tagged (srcs : List (List MMsg)) : Prop := ∀ (i : Nat) (s : List MMsg), srcs[i]? = some s → ∀ m ∈ s, MMsg.src m = i

/-- the relative order of the messages of one source is kept; `accepts` compares the `src` of what it pops itself, so the
    sources need not be known to be `Tagged` -/
theorem accepts_order (srcs : List (List MMsg)) (out : List MMsg) (h : accepts srcs out = true)
    (i : Nat) : (out.filter (·.src == i)).map key = ((srcs[i]?).getD []).map key := by
  induction out generalizing srcs with
  | nil =>
    cases hs : srcs[i]? with
    | none => rfl
    | some s => rw [accepts_nil h s (List.mem_of_getElem? hs)]; rfl
  | cons m out ih =>
    obtain ⟨hd, tl, hs, hk, _, hrest⟩ := accepts_cons h
    have ih' := ih _ hrest
    by_cases hmi : m.src = i
    · subst hmi
      rw [List.getElem?_set_self', hs] at ih'
      rw [List.filter_cons_of_pos, List.map_cons, ih', hs, ← hk]
      · rfl
      · exact decide_eq_true rfl   -- `beq_self_eq_true` searches long for `ReflBEq Nat`
    · rw [List.getElem?_set_ne hmi] at ih'
      simp only [List.filter_cons, beq_iff_eq, hmi, if_false]
      exact ih'

abbrev ByRecv (s : List MMsg) : Prop := s.Pairwise (fun a b => a.recv ≤ b.recv)

theorem sorted_set {srcs : List (List MMsg)} {i : Nat} {hd : MMsg} {tl : List MMsg} (hs : srcs[i]? = some (hd :: tl))
    (hsort : ∀ s ∈ srcs, ByRecv s) : ∀ s ∈ srcs.set i tl, ByRecv s := by
  intro s h
  rcases List.mem_or_eq_of_mem_set h with h | rfl
  · exact hsort s h
  · exact (List.pairwise_cons.mp (hsort _ (List.mem_of_getElem? hs))).2

theorem heads_set_ge {srcs : List (List MMsg)} {i : Nat} {hd : MMsg} {tl : List MMsg} (hs : srcs[i]? = some (hd :: tl))
    (hsort : ∀ s ∈ srcs, ByRecv s) (r : Nat) (hr : ∀ x ∈ heads srcs, r ≤ x.recv) : ∀ x ∈ heads (srcs.set i tl), r ≤ x.recv := by
  intro x hx
  obtain ⟨s, hsm, hxs⟩ := List.mem_filterMap.mp hx
  rcases List.mem_or_eq_of_mem_set hsm with h | rfl
  · exact hr x (List.mem_filterMap.mpr ⟨s, h, hxs⟩)
  · exact Nat.le_trans (hr hd (head_mem_heads hs))
      ((List.pairwise_cons.mp (hsort _ (List.mem_of_getElem? hs))).1 x (List.mem_of_mem_head? hxs))

/-- with sorted sources the output is sorted, and nothing in it lies before a lower bound of the heads -/
theorem accepts_sorted (srcs : List (List MMsg)) (out : List MMsg) (hsort : ∀ s ∈ srcs, ByRecv s) (h : accepts srcs out = true) :
    ByRecv out ∧ ∀ r, (∀ x ∈ heads srcs, r ≤ x.recv) → ∀ x ∈ out, r ≤ x.recv := by
  induction out generalizing srcs with
  | nil => exact ⟨List.Pairwise.nil, fun _ _ => List.forall_mem_nil _⟩
  | cons m out ih =>
    obtain ⟨hd, tl, hs, hk, hmin, hrest⟩ := accepts_cons h
    obtain ⟨p, q⟩ := ih _ (sorted_set hs hsort) hrest
    refine ⟨List.pairwise_cons.mpr ⟨q m.recv (heads_set_ge hs hsort _ hmin), p⟩, fun r hr x hx => ?_⟩
    have hm : r ≤ m.recv := (congrArg (·.2.2) hk : hd.recv = m.recv) ▸ hr hd (head_mem_heads hs)
    rcases List.mem_cons.mp hx with rfl | hx
    · exact hm
    · exact q r (heads_set_ge hs hsort r hr) x hx

theorem renumber_key (i0 : Nat) (l : List MMsg) : (renumber i0 l).map key = l.map key := by
  rw [renumber, List.map_map]
  -- the key does not look at `index`, so the map factors through the first projection of `zipIdx`
  exact (List.map_map (f := Prod.fst) (g := key) (l := l.zipIdx)).symm.trans (congrArg _ (List.zipIdx_map_fst 0 l))

end Mrg
