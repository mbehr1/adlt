import Adlt.Convert.Model
import Adlt.Lc.Listing
/-! C14 (file order): the two sorting steps of the input ordering (the files of one ECU set by first reception time, the
    streams by the reception time of their first message) are canonical as long as those times are distinct. -/
namespace Cvt
open Lcm

def leKey {α} (key : α → Nat) (a b : α) : Bool := key a ≤ key b

theorem leKey_total {α} (key : α → Nat) (S : List α) : TotalPreOn (leKey key) S := by
  refine ⟨?_, ?_⟩
  · intro a _ b _; simp only [leKey, decide_eq_true_eq]; exact Nat.le_total _ _
  · intro a _ b _ c _; simp only [leKey, decide_eq_true_eq]; exact Nat.le_trans

theorem isort_perm_invariant {α} (key : α → Nat) (l l' : List α) (hp : l.Perm l')
    (hinj : ∀ a ∈ l, ∀ b ∈ l, key a = key b → a = b) :
    isortStable (leKey key) l = isortStable (leKey key) l' := by
  have s1 := isortStable_sorted (leKey key) l (leKey_total key l)
  have s2 := isortStable_sorted (leKey key) l' (leKey_total key l')
  have p1 := isortStable_perm (leKey key) l
  have p2 := isortStable_perm (leKey key) l'
  apply List.Perm.eq_of_pairwise (le := fun a b => leKey key a b = true) _ s1 s2 (p1.trans (hp.trans p2.symm))
  intro a b ha hb hab hba
  simp only [leKey, decide_eq_true_eq] at hab hba
  have ha' : a ∈ l := p1.mem_iff.mp ha
  have hb' : b ∈ l := hp.mem_iff.mpr (p2.mem_iff.mp hb)
  exact hinj a ha' b hb' (Nat.le_antisymm hab hba)

theorem insertBy_ne_nil {α} (le : α → α → Bool) (x : α) (l : List α) : insertBy le x l ≠ [] := by
  cases l with
  | nil => exact List.cons_ne_nil _ _
  | cons y t => unfold insertBy; split <;> exact List.cons_ne_nil _ _

/-- both sorting steps of the model fold an insertion that goes in front of the first element with a greater key: such a
    fold is the stable insertion sort by the key -/
theorem foldl_ins_eq {α} (key : α → Nat) (ins : α → List α → List α) (h0 : ∀ x, ins x [] = [x])
    (h1 : ∀ x g t, ins x (g :: t) = if key x < key g then x :: g :: t else g :: ins x t) (l : List α) :
    l.foldl (fun acc x => ins x acc) [] = isortStable (leKey key) l := by
  have h : ∀ x acc, ins x acc = insertBy (leKey key) x acc := by
    intro x acc
    induction acc with
    | nil => exact h0 x
    | cons g t ih =>
      rw [h1, ih]
      simp only [insertBy, leKey, decide_eq_true_eq]
      by_cases h : key x < key g
      · rw [if_pos h, if_neg (Nat.not_le.mpr h)]
      · rw [if_neg h, if_pos (Nat.not_lt.mp h)]
  unfold isortStable
  congr 1
  funext acc x
  exact h x acc

theorem sortByTime_eq (l : List File) : sortByTime l = isortStable (leKey File.firstRecv) l :=
  foldl_ins_eq File.firstRecv insertByTime (fun _ => rfl) (fun _ _ _ => rfl) l

def headRecv (s : List FMsg) : Nat := (s.head?.map (·.recv)).getD 0

theorem rankStreams_eq (ss : List (List FMsg)) : rankStreams ss = isortStable (leKey headRecv) ss :=
  foldl_ins_eq headRecv insertStream (fun _ => rfl) (fun _ _ _ => rfl) ss

theorem sortByTime_perm_invariant (l l' : List File) (hp : l.Perm l')
    (hd : ∀ a ∈ l, ∀ b ∈ l, a.firstRecv = b.firstRecv → a = b) : sortByTime l = sortByTime l' := by
  rw [sortByTime_eq, sortByTime_eq]; exact isort_perm_invariant _ l l' hp hd

theorem rankStreams_perm_invariant (ss ss' : List (List FMsg)) (hp : ss.Perm ss')
    (hd : ∀ a ∈ ss, ∀ b ∈ ss, headRecv a = headRecv b → a = b) : rankStreams ss = rankStreams ss' := by
  rw [rankStreams_eq, rankStreams_eq]; exact isort_perm_invariant _ ss ss' hp hd

end Cvt
