import Adlt.Convert.Model
import Adlt.Filter.Proofs
import Adlt.Lc.Fifo
/-! Lemmas for C14: each stage of the convert pipeline is a `List.filter` by its own criterion (or keeps the list),
    the lifecycle stage numbers the input consecutively and keeps every message. -/
namespace Cvt
open Flt

theorem keepImpl_eq (mt : Filter → MsgView → Bool) (fs : List Filter) (v : MsgView) :
    keepImpl mt fs v = Flt.Spec.keepStream mt fs v := veto_eq _ _ _

theorem filterAsStreams_keepImpl (mt : Filter → MsgView → Bool) (fs : List Filter) (vs : List MsgView) :
    (filterAsStreams mt fs vs).1 = vs.filter (keepImpl mt fs) := by unfold filterAsStreams; rfl

theorem stageFilter_eq (mt : Filter → MsgView → Bool) (fs : List Filter) (l : List PMsg) :
    stageFilter mt fs l = l.filter fun p => Flt.Spec.keepStream mt fs (view p) := by
  unfold stageFilter
  cases fs with
  | nil => exact (List.filter_eq_self.mpr fun _ _ => rfl).symm
  | cons f fs => exact congrArg (l.filter ·) (funext fun p => keepImpl_eq mt _ (view p))

theorem stageOut_eq (o : Opts) (l : List PMsg) :
    stageOut o l = l.filter fun p => lcSelected o p.lc && inWindow o p.index := by
  unfold stageOut lcSelected
  congr 1
  funext p
  cases o.lcs.isEmpty <;> cases o.lcs.contains p.lc <;> simp

/-- the stages behind the lifecycle stage and the sorter are one `List.filter` by the stated selection, for every input -/
theorem pipeline_eq (sorter : List PMsg → List PMsg) (re : Re) (o : Opts) (ms : List FMsg) :
    pipeline sorter (matchesImpl re) o ms
      = ((if o.sort then sorter (stageLc ms) else stageLc ms)).filter (Spec.selected re o) := by
  unfold pipeline
  rw [stageOut_eq, stageFilter_eq, List.filter_filter,
    show matchesImpl re = Flt.Spec.decides re from funext fun f => funext (matchesImpl_eq_spec re f)]
  congr 1
  funext p
  simp only [Spec.selected, Bool.and_assoc, Bool.and_comm]

/-- outputs that carry the positions `pre.length, pre.length + 1, …` are rejoined with the messages at those positions -/
theorem stageLc_aux (all : List FMsg) :
    ∀ (suf pre : List FMsg) (outs : List Lcm.OutObs), all = pre ++ suf →
      outs.map (·.m.index) = List.range' pre.length suf.length →
      let r := outs.filterMap fun o => (all[o.m.index]?).map fun m => ({ index := o.m.index, lc := o.lc, m := m } : PMsg)
      r.map (·.m) = suf ∧ r.map (·.index) = List.range' pre.length suf.length := by
  intro suf
  induction suf with
  | nil =>
    intro pre outs _ ho
    rw [List.map_eq_nil_iff.mp ho]
    exact ⟨rfl, rfl⟩
  | cons m t ih =>
    intro pre outs hall ho
    cases outs with
    | nil => cases ho
    | cons o outs' =>
      simp only [List.length_cons, List.range'_succ, List.map_cons, List.cons.injEq] at ho
      obtain ⟨hidx, hrest⟩ := ho
      have hget : all[o.m.index]? = some m := by
        rw [hidx, hall, List.getElem?_append_right (Nat.le_refl _), Nat.sub_self]; rfl
      have := ih (pre ++ [m]) outs' (by rw [hall, List.append_assoc]; rfl) (by rw [List.length_append]; exact hrest)
      simp only [List.length_append, List.length_cons, List.length_nil, Nat.zero_add] at this
      simp only [List.filterMap_cons, hget, Option.map_some, List.map_cons, List.length_cons, List.range'_succ]
      exact ⟨by rw [this.1], by rw [this.2, hidx]⟩

theorem lc_out_input (ms : List FMsg) :
    (Lcm.observe (Lcm.run (lcInput ms))).out.map (·.m) = lcInput ms := by
  have h := Lcm.C05_once_in_order (lcInput ms) (Lcm.run_not_panicked _)
  -- the input carries no lifecycle yet, so erasing it changes nothing
  have hid : (lcInput ms).map Lcm.erase = lcInput ms := by
    unfold lcInput
    rw [List.map_map]
    exact List.map_congr_left fun _ _ => rfl
  exact (Lcm.observe_out_m _).trans (h.trans hid)

/-- the lifecycle stage forwards every input message once, in order, numbered 0, 1, 2, … by its position -/
theorem stageLc_spec (ms : List FMsg) :
    (stageLc ms).map (·.m) = ms ∧ (stageLc ms).map (·.index) = List.range ms.length := by
  have hidx : (Lcm.observe (Lcm.run (lcInput ms))).out.map (·.m.index) = List.range' 0 ms.length := by
    refine (List.map_map ..).symm.trans ((congrArg (List.map Lcm.Msg.index) (lc_out_input ms)).trans ?_)
    rw [lcInput, List.map_map, ← List.zipIdx_map_snd]
    rfl
  rw [List.range_eq_range']
  exact stageLc_aux ms ms [] _ rfl hidx

end Cvt
