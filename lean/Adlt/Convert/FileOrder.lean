import Adlt.Convert.Group
/-! C14 (file order), assembly: naming the input files in a different order gives the same message sequence when the files'
    first reception times are distinct. -/
namespace Cvt
open Lcm

/-- the messages of one group as they are read: its files by first reception time, a file named twice once -/
def groupStream (g : Group) : List FMsg := groupMsgs (dedupFiles (sortByTime g.2))
def streamsOf (G : List Group) : List (List FMsg) := G.map groupStream

theorem inputSeq_eq (files : List File) :
    inputSeq files = merge (rankStreams ((streamsOf ((files.filter fun f => !f.msgs.isEmpty).foldl addFile [])).filter fun s => !s.isEmpty)) := by
  unfold inputSeq orderInputs streamsOf groupStream
  rw [List.map_map]
  rfl

/-- a group as `addFile` builds it from files of `U`: not empty, its key the ECU set of each of its files -/
def GroupOk (U : List File) (g : Group) : Prop := g.2 ≠ [] ∧ ∀ x ∈ g.2, x ∈ U ∧ sameSet g.1 x.ecus = true

theorem addFile_ok {U : List File} {G : List Group} {f : File} (hf : f ∈ U) (h : ∀ g ∈ G, GroupOk U g) :
    ∀ g ∈ addFile G f, GroupOk U g := by
  intro g hg
  rcases mem_addFile hg with hg | ⟨l, hg, hm, hl⟩ | rfl
  · exact h g hg
  · refine ⟨by rw [hl]; simp, fun x hx => ?_⟩
    rw [hl] at hx
    rcases List.mem_append.mp hx with hx | hx
    · exact (h _ hg).2 x hx
    · rw [List.mem_singleton.mp hx]; exact ⟨hf, hm⟩
  · exact ⟨by simp, fun x hx => by rw [List.mem_singleton.mp hx]; exact ⟨hf, sameSet_refl _⟩⟩

/-- that the files are from `U` is carried along because `GP.trans` has an unknown list in the middle -/
theorem gp_streams {G G' : List Group} (h : GP G G') (U : List File)
    (hU : ∀ a ∈ U, ∀ b ∈ U, a.firstRecv = b.firstRecv → a = b) (hin : ∀ g ∈ G, ∀ f ∈ g.2, f ∈ U) :
    (streamsOf G).Perm (streamsOf G') ∧ ∀ g ∈ G', ∀ f ∈ g.2, f ∈ U := by
  induction h with
  | nil => exact ⟨.refl _, hin⟩
  | cons g g' t t' _ hp _ ih =>
    rw [List.forall_mem_cons] at hin ⊢
    obtain ⟨p, q⟩ := ih hin.2
    have hc : groupStream g = groupStream g' := by
      unfold groupStream
      rw [sortByTime_perm_invariant g.2 g'.2 hp (fun a ha b hb => hU a (hin.1 a ha) b (hin.1 b hb))]
    refine ⟨?_, fun f hf => hin.1 f (hp.mem_iff.mpr hf), q⟩
    simp only [streamsOf, List.map_cons, hc]
    exact p.cons _
  | swap a b t => exact ⟨List.Perm.swap _ _ _, fun g hg => hin g ((List.Perm.swap a b t).mem_iff.mp hg)⟩
  | trans _ _ ih1 ih2 =>
    obtain ⟨p, q⟩ := ih1 hin
    exact ⟨p.trans (ih2 q).1, (ih2 q).2⟩

theorem dedupFiles_cons (f : File) (t : List File) : ∃ f' ∈ f :: t, ∃ r, dedupFiles (f :: t) = f' :: r := by
  induction t generalizing f with
  | nil => exact ⟨f, List.mem_cons_self, [], rfl⟩
  | cons g u ih =>
    rw [dedupFiles]
    split
    · obtain ⟨f', hf', r, hr⟩ := ih g
      exact ⟨f', List.mem_cons_of_mem _ hf', r, hr⟩
    · exact ⟨f, List.mem_cons_self, _, rfl⟩

theorem groupStream_head (g : Group) (hne : g.2 ≠ []) (hfiles : ∀ f ∈ g.2, f.msgs ≠ []) :
    ∃ f ∈ g.2, headRecv (groupStream g) = f.firstRecv := by
  have hperm : (sortByTime g.2).Perm g.2 := by rw [sortByTime_eq]; exact isortStable_perm _ _
  cases hsl : sortByTime g.2 with
  | nil => rw [hsl] at hperm; exact absurd hperm.nil_eq.symm hne
  | cons a t =>
    obtain ⟨f0, hf0, r, hr⟩ := dedupFiles_cons a t
    have hf0 : f0 ∈ g.2 := hperm.mem_iff.mp (hsl ▸ hf0)
    refine ⟨f0, hf0, ?_⟩
    unfold groupStream headRecv groupMsgs
    rw [hsl, hr]
    cases hmsgs : f0.msgs with
    | nil => exact absurd hmsgs (hfiles f0 hf0)
    | cons m ms => simp [File.firstRecv, hmsgs]

theorem streams_heads_distinct (G : List Group) (hd : Distinct G) (U : List File) (hok : ∀ g ∈ G, GroupOk U g)
    (hU : ∀ a ∈ U, ∀ b ∈ U, a.firstRecv = b.firstRecv → a = b) (hfiles : ∀ f ∈ U, f.msgs ≠ []) :
    ∀ a ∈ streamsOf G, ∀ b ∈ streamsOf G, headRecv a = headRecv b → a = b := by
  intro a ha b hb heq
  simp only [streamsOf, List.mem_map] at ha hb
  obtain ⟨g, hg, rfl⟩ := ha
  obtain ⟨h, hh, rfl⟩ := hb
  obtain ⟨f0, hf0, e0⟩ := groupStream_head g (hok g hg).1 (fun f hf => hfiles f ((hok g hg).2 f hf).1)
  obtain ⟨f1, hf1, e1⟩ := groupStream_head h (hok h hh).1 (fun f hf => hfiles f ((hok h hh).2 f hf).1)
  have hff : f0 = f1 := hU f0 ((hok g hg).2 f0 hf0).1 f1 ((hok h hh).2 f1 hf1).1 (by rw [← e0, ← e1]; exact heq)
  subst hff
  -- both groups hold `f0`, so both keys are its ECU set
  rw [hd.eq_of_sameSet hg hh (sameSet_trans ((hok g hg).2 f0 hf0).2 (sameSet_symm ((hok h hh).2 f0 hf1).2))]

/-- **file order**: naming the input files in a different order gives the same message sequence when the first reception
    times of the non-empty files are distinct -/
theorem inputSeq_perm (files files' : List File) (hp : files.Perm files')
    (hdist : ∀ a ∈ files, ∀ b ∈ files, a.msgs ≠ [] → b.msgs ≠ [] → a.firstRecv = b.firstRecv → a = b) :
    inputSeq files' = inputSeq files := by
  rw [inputSeq_eq, inputSeq_eq]
  generalize hF : (files.filter fun f => !f.msgs.isEmpty) = F
  generalize hF' : (files'.filter fun f => !f.msgs.isEmpty) = F'
  have hpF : F.Perm F' := by rw [← hF, ← hF']; exact hp.filter _
  have hFmem : ∀ f ∈ F, f ∈ files ∧ f.msgs ≠ [] := by
    intro f hf
    rw [← hF] at hf
    simp only [List.mem_filter, Bool.not_eq_true', List.isEmpty_eq_false_iff] at hf
    exact hf
  have hU : ∀ a ∈ F, ∀ b ∈ F, a.firstRecv = b.firstRecv → a = b := by
    intro a ha b hb h
    exact hdist a (hFmem a ha).1 b (hFmem b hb).1 (hFmem a ha).2 (hFmem b hb).2 h
  -- two invariants of the fold: they hold of `[]` and `addFile` keeps them
  have hok : ∀ g ∈ F.foldl addFile [], GroupOk F g :=
    List.foldlRecOn (motive := fun G => ∀ g ∈ G, GroupOk F g) F addFile (List.forall_mem_nil _)
      fun _ h f hf => addFile_ok hf h
  have hd0 : Distinct ([] : List Group) := List.Pairwise.nil
  have hperm := (gp_streams (foldl_addFile_gp_of_perm hpF []) F hU (fun g hg f hf => ((hok g hg).2 f hf).1)).1
  have hheads := streams_heads_distinct (F.foldl addFile []) (List.foldlRecOn F addFile hd0 fun G h f _ => addFile_distinct G f h) F hok hU
    (fun f hf => (hFmem f hf).2)
  have hdF : ∀ a ∈ (streamsOf (F.foldl addFile [])).filter (fun s => !s.isEmpty),
      ∀ b ∈ (streamsOf (F.foldl addFile [])).filter (fun s => !s.isEmpty), headRecv a = headRecv b → a = b := by
    intro a ha b hb h
    exact hheads a (List.mem_filter.mp ha).1 b (List.mem_filter.mp hb).1 h
  rw [rankStreams_perm_invariant _ _ (hperm.filter _) hdF]

end Cvt
