import Adlt.Convert.Order
/-! C14 (file order), the grouping step: `addFile` puts a file into the group of its ECU set. Up to the order of the groups
    and the order of the files inside a group (`GP`), the result does not depend on the order in which the files are added:
    exchanging two additions changes the grouping in one of two local ways (`Near`), and further additions keep that. -/
namespace Cvt

/-! ### `sameSet` is an equivalence -/

theorem sameSet_comm (a b : List Nat) : sameSet a b = sameSet b a := Bool.and_comm _ _

theorem sameSet_iff (a b : List Nat) : sameSet a b = true ↔ (∀ x ∈ a, x ∈ b) ∧ (∀ x ∈ b, x ∈ a) := by
  simp only [sameSet, Bool.and_eq_true, List.all_eq_true, List.contains_iff_mem]

theorem sameSet_refl (a : List Nat) : sameSet a a = true := (sameSet_iff a a).mpr ⟨fun _ h => h, fun _ h => h⟩

theorem sameSet_symm {a b : List Nat} (h : sameSet a b = true) : sameSet b a = true := sameSet_comm a b ▸ h

theorem sameSet_trans {a b c : List Nat} (h1 : sameSet a b = true) (h2 : sameSet b c = true) : sameSet a c = true := by
  rw [sameSet_iff] at h1 h2 ⊢
  exact ⟨fun x hx => h2.1 x (h1.1 x hx), fun x hx => h1.2 x (h2.2 x hx)⟩

theorem sameSet_congr_left {a a' : List Nat} (b : List Nat) (h : sameSet a a' = true) : sameSet a b = sameSet a' b := by
  cases h1 : sameSet a b <;> cases h2 : sameSet a' b <;> try rfl
  · have := sameSet_trans h h2; rw [h1] at this; cases this
  · have := sameSet_trans (sameSet_symm h) h1; rw [h2] at this; cases this

/-- the keys of the groups are pairwise different ECU sets -/
def Distinct (G : List Group) : Prop := G.Pairwise fun g h => sameSet g.1 h.1 = false

/-- the same groups up to their order, the representative of each key and the order of the files inside each group -/
inductive GP : List Group → List Group → Prop
  | nil : GP [] []
  | cons (g g' : Group) (t t' : List Group) : sameSet g.1 g'.1 = true → g.2.Perm g'.2 → GP t t' → GP (g :: t) (g' :: t')
  | swap (a b : Group) (t : List Group) : GP (a :: b :: t) (b :: a :: t)
  | trans {a b c : List Group} : GP a b → GP b c → GP a c

theorem GP.refl (G : List Group) : GP G G := by
  induction G with
  | nil => exact .nil
  | cons g t ih => exact .cons g g t t (sameSet_refl _) (List.Perm.refl _) ih

theorem addFile_cons (g : Group) (t : List Group) (f : File) :
    addFile (g :: t) f = if sameSet g.1 f.ecus then (g.1, g.2 ++ [f]) :: t else g :: addFile t f := rfl

/-- what exchanging two additions does to the grouping, and what further additions keep: below a common prefix either
    the files of one group are permuted (its key may be another representative of the same ECU set), or two neighbouring
    groups with different keys have changed places -/
inductive Near : List Group → List Group → Prop
  | files (g g' : Group) (t : List Group) : sameSet g.1 g'.1 = true → g.2.Perm g'.2 → Near (g :: t) (g' :: t)
  | groups (a b : Group) (t : List Group) : sameSet a.1 b.1 = false → Near (a :: b :: t) (b :: a :: t)
  | cons (g : Group) {t t' : List Group} : Near t t' → Near (g :: t) (g :: t')

theorem Near.gp {A B : List Group} (h : Near A B) : GP A B := by
  induction h with
  | files g g' t hk hp => exact .cons g g' t t hk hp (GP.refl t)
  | groups a b t _ => exact .swap a b t
  | cons g _ ih => exact .cons g g _ _ (sameSet_refl _) (List.Perm.refl _) ih

theorem addFile_comm_near (G : List Group) (x y : File) : Near (addFile (addFile G x) y) (addFile (addFile G y) x) := by
  induction G with
  | nil =>
    simp only [addFile]
    rw [sameSet_comm y.ecus x.ecus]
    cases h : sameSet x.ecus y.ecus with
    | false => exact .groups _ _ _ h
    | true => exact .files _ _ _ h (List.Perm.swap _ _ _).symm
  | cons g t ih =>
    cases hx : sameSet g.1 x.ecus <;> cases hy : sameSet g.1 y.ecus <;>
      simp only [addFile_cons, hx, hy, Bool.false_eq_true, if_true, if_false]
    case false.false => exact .cons _ ih
    case false.true | true.false => exact .files _ _ _ (sameSet_refl _) (List.Perm.refl _)
    case true.true =>
      refine .files _ _ _ (sameSet_refl _) ?_
      simp only [List.append_assoc, List.cons_append, List.nil_append]
      exact List.Perm.append_left _ (List.Perm.swap _ _ _).symm

theorem addFile_near {A B : List Group} (h : Near A B) (f : File) : Near (addFile A f) (addFile B f) := by
  induction h with
  | files g g' t hk hp =>
    rw [addFile_cons, addFile_cons, ← sameSet_congr_left f.ecus hk]
    split
    · exact .files _ _ _ hk (hp.append_right _)
    · exact .files _ _ _ hk hp
  | groups a b t hab =>
    rw [addFile_cons, addFile_cons, addFile_cons, addFile_cons]
    -- `f` joins at most one of the two groups, since their keys differ; whichever it joins, the two still change places
    cases ha : sameSet a.1 f.ecus <;> cases hb : sameSet b.1 f.ecus
    case true.true => rw [sameSet_trans ha (sameSet_symm hb)] at hab; cases hab
    all_goals exact .groups _ _ _ hab
  | cons g ht ih =>
    rw [addFile_cons, addFile_cons]
    split
    · exact .cons _ ht
    · exact .cons _ ih

theorem addFile_comm (G : List Group) (x y : File) : GP (addFile (addFile G x) y) (addFile (addFile G y) x) :=
  (addFile_comm_near G x y).gp

theorem foldl_addFile_near (l : List File) : ∀ {A B : List Group}, Near A B → Near (l.foldl addFile A) (l.foldl addFile B) := by
  induction l with
  | nil => exact id
  | cons f t ih => exact fun h => ih (addFile_near h f)

/-- **the grouping does not depend on the order of the files** (up to the order of the groups and inside them) -/
theorem foldl_addFile_gp_of_perm {l l' : List File} (hp : l.Perm l') : ∀ G, GP (l.foldl addFile G) (l'.foldl addFile G) := by
  induction hp with
  | nil => exact GP.refl
  | cons x _ ih => exact fun G => ih _
  | swap x y l => exact fun G => (foldl_addFile_near l (addFile_comm_near G y x)).gp
  | trans _ _ ih1 ih2 => exact fun G => .trans (ih1 G) (ih2 G)

/-- the same for group lists with distinct keys, the case `convert` meets -/
theorem foldl_addFile_perm {l l' : List File} (hp : l.Perm l') : ∀ G, Distinct G → GP (l.foldl addFile G) (l'.foldl addFile G) :=
  fun G _ => foldl_addFile_gp_of_perm hp G

/-! ### the keys of the groups stay pairwise different -/

theorem mem_addFile {G : List Group} {f : File} {g : Group} (h : g ∈ addFile G f) :
    g ∈ G ∨ (∃ l, (g.1, l) ∈ G ∧ sameSet g.1 f.ecus = true ∧ g.2 = l ++ [f]) ∨ g = (f.ecus, [f]) := by
  fun_induction addFile G f with
  | case1 => exact .inr (.inr (List.mem_singleton.mp h))
  | case2 e l t f hm =>
    rcases List.mem_cons.mp h with rfl | h
    · exact .inr (.inl ⟨l, List.mem_cons_self, hm, rfl⟩)
    · exact .inl (List.mem_cons_of_mem _ h)
  | case3 e l t f hm ih =>
    rcases List.mem_cons.mp h with rfl | h
    · exact .inl List.mem_cons_self
    · rcases ih h with h | ⟨l', h, hm, hl⟩ | h
      · exact .inl (List.mem_cons_of_mem _ h)
      · exact .inr (.inl ⟨l', List.mem_cons_of_mem _ h, hm, hl⟩)
      · exact .inr (.inr h)

theorem addFile_distinct (G : List Group) (f : File) (hd : Distinct G) : Distinct (addFile G f) := by
  fun_induction addFile G f with
  | case1 => exact List.pairwise_singleton ..
  | case2 e l t f hm => exact List.pairwise_cons.mpr (List.pairwise_cons.mp hd)
  | case3 e l t f hm ih =>
    have hd := List.pairwise_cons.mp hd
    refine List.pairwise_cons.mpr ⟨?_, ih hd.2⟩
    -- the head key differs from every key of `addFile t f`: old ones by `hd`, a new one is `f.ecus`
    intro x hx
    rcases mem_addFile hx with h | ⟨l', h, _, _⟩ | rfl
    · exact hd.1 x h
    · exact hd.1 (x.1, l') h
    · exact Bool.eq_false_iff.mpr hm

theorem Distinct.eq_of_sameSet {G : List Group} (hd : Distinct G) {g h : Group} (hg : g ∈ G) (hh : h ∈ G)
    (hs : sameSet g.1 h.1 = true) : g = h :=
  List.Pairwise.forall_of_forall_of_flip (R := fun g h => sameSet g.1 h.1 = true → g = h) (fun _ _ _ => rfl)
    (hd.imp fun e hs => nomatch e.symm.trans hs) (hd.imp fun e hs => nomatch e.symm.trans (sameSet_symm hs)) hg hh hs

end Cvt
