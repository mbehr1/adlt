import Adlt.Buf.Inv
/-! C04 (reader): `fill` keeps the invariant under every read schedule and, with room for the low mark plus one cache line,
    ends with at least the low mark buffered or with all the source had; the end-of-data latch is only set when the source
    is exhausted. Then `consume`, `read` and `seek`, which only fill and move `pos`. -/
namespace Lmk

/-- the latch is honest: it is set only when nothing is left in the source -/
def EofOk (s : LM) : Prop := s.eof = true → s.src = []

/-- a window is *good*: at least the low mark, or everything that is left of the source -/
def Good (orig : List Nat) (s : LM) : Prop := s.lowMark ≤ s.cap - s.pos ∨ s.absPos + s.cap = orig.length

theorem src_nil_end (orig : List Nat) (s : LM) (hi : Inv orig s) (h : s.src = []) : s.absPos + s.cap = orig.length :=
  Nat.le_antisymm hi.inOrig (List.drop_eq_nil_iff.mp (hi.src ▸ h))

/-- a full buffer holds the low mark: in front of `pos` lie fewer than a cache line of cells -/
theorem full_window {low cl len cap pos : Nat} (hcap : low + cl ≤ len) (hp : pos < cl) (hpc : pos ≤ cap) (hc : cap ≤ len) :
    low ≤ cap - pos + (len - cap) := by
  rw [Nat.add_comm, Nat.sub_add_sub_cancel hc hpc]  -- the right side is `len - pos`; `low + pos ≤ low + cl ≤ len`
  exact Nat.le_sub_of_add_le (Nat.le_trans (Nat.add_le_add_left (Nat.le_of_lt hp) low) hcap)

-- compaction and inner read enter through their lemmas only; folded, no unification looks inside them
attribute [local irreducible] LM.rd LM.compact in
/-- the fill loop leaves a later state of the same reader; with iterations enough (each pass that continues adds a byte to a
    window that cannot exceed the buffer) it ends good, the latch honest -/
theorem fillLoop_spec (orig : List Nat) (fuel : Nat) (s : LM) (hi : Inv orig s) :
    ∃ n, Grows orig s (LM.fillLoop fuel s) n ∧
    (s.eof = false → s.lowMark + cacheLine ≤ s.buf.length → s.buf.length < fuel + (s.cap - s.pos) →
      Good orig (LM.fillLoop fuel s) ∧ EofOk (LM.fillLoop fuel s)) := by
  induction fuel generalizing s with
  | zero =>
    -- without fuel the premise says `buf.length < cap - pos`, and `cap ≤ buf.length`
    exact ⟨0, .refl hi, fun _ _ hf =>
      absurd hi.capLe (Nat.not_le.mpr (Nat.lt_of_lt_of_le (Nat.zero_add _ ▸ hf) (Nat.sub_le _ _)))⟩
  | succ n ih =>
    rw [fillLoop_succ]
    obtain ⟨pg, pzero⟩ := pass_spec orig s hi
    have c := compact_inv orig s hi
    have cwin : s.compact.cap - s.compact.pos = s.cap - s.pos := c.win
    have ceof := compact_eof s
    by_cases hw : s.cap - s.pos < s.lowMark
    · rw [if_pos hw]
      by_cases h0 : s.rd.1.length = 0
      · -- the inner reader had nothing: end of data
        rw [if_pos (beq_iff_eq.mpr h0)]
        have hsrc : s.rd.2.1 = orig.drop (s.compact.absPos + (s.compact.cap + s.rd.1.length)) := pg.inv.src
        rw [h0] at hsrc
        refine ⟨0, { c with inv := { c.inv with src := hsrc } }, fun _ hcap _ => ?_⟩
        have hroom : 1 ≤ s.compact.buf.length - s.compact.cap := Nat.sub_pos_of_lt (c.len ▸ (compact_room s hw hcap).1)
        have hend := src_nil_end orig s.compact c.inv (pzero h0 hroom)
        exact ⟨Or.inr hend, fun _ => hsrc.trans (List.drop_eq_nil_of_le (Nat.le_of_eq hend.symm))⟩
      · rw [if_neg (mt beq_iff_eq.mp h0)]
        by_cases hfull : s.rd.1.length = s.compact.buf.length - s.compact.cap
        · -- the buffer is full
          rw [if_pos (beq_iff_eq.mpr hfull)]
          refine ⟨_, pg, fun he hcap _ => ⟨Or.inl ?_, fun h => absurd (ceof.symm.trans h) (by rw [he]; decide)⟩⟩
          rw [pg.low, pg.win, hfull, ← cwin]
          exact full_window (c.len ▸ hcap) (compact_room s hw hcap).2 c.inv.posLe c.inv.capLe
        · -- something was read, the buffer is not full: once more
          rw [if_neg (mt beq_iff_eq.mp hfull)]
          obtain ⟨m, kg, kgood⟩ := ih s.pass pg.inv
          refine ⟨_, pg.trans kg, fun he hcap hf => kgood (ceof.trans he) (by rw [pg.len, pg.low]; exact hcap) ?_⟩
          -- the window has grown by at least one byte, so one iteration less will do
          rw [pg.len, pg.win]
          exact Nat.lt_of_lt_of_le hf (by
            rw [Nat.add_assoc, Nat.add_comm 1]
            exact Nat.add_le_add_left (Nat.add_le_add_left (Nat.pos_of_ne_zero h0) _) _)
    · rw [if_neg hw]
      exact ⟨0, .refl hi, fun he _ _ => ⟨Or.inl (Nat.le_of_not_lt hw), fun h => absurd h (by rw [he]; decide)⟩⟩

theorem fill_grows (orig : List Nat) (s : LM) (hi : Inv orig s) : ∃ n, Grows orig s s.fill n := by
  fun_cases LM.fill s with
  | case1 => exact ⟨0, .refl hi⟩
  | case2 => exact (fillLoop_spec orig (s.buf.length + 2) s hi).imp fun _ h => h.1

/-- **low-water mark**: every fill, under every read schedule, ends with a good window; the latch stays honest -/
theorem fill_good (orig : List Nat) (s : LM) (hi : Inv orig s) (he : EofOk s)
    (hcap : s.lowMark + cacheLine ≤ s.buf.length) : Good orig s.fill ∧ EofOk s.fill := by
  fun_cases LM.fill s with
  | case1 h => exact ⟨Or.inr (src_nil_end orig s hi (he h)), he⟩
  | case2 h =>
    obtain ⟨_, _, g⟩ := fillLoop_spec orig (s.buf.length + 2) s hi
    exact g (Bool.eq_false_iff.mpr h) hcap (Nat.lt_add_right _ (Nat.lt_add_of_pos_right (by decide)))

theorem good_window (orig : List Nat) (s : LM) (hi : Inv orig s) (hg : Good orig s) :
    min s.lowMark (orig.length - (s.absPos + s.pos)) ≤ s.window.length := by
  rw [window_eq orig s hi, List.length_take, List.length_drop]
  -- the window is `min (cap - pos) (rest of the source)`; a good window has `lowMark ≤ cap - pos` or reaches the end
  refine Nat.le_min.mpr ⟨?_, Nat.min_le_right _ _⟩
  cases hg with
  | inl h => exact Nat.le_trans (Nat.min_le_left _ _) h
  | inr h => exact Nat.le_trans (Nat.min_le_right _ _) (by rw [← h, Nat.add_sub_add_left]; exact Nat.le_refl _)

/-- `seekStart` fills an empty buffer first; from that state `t` it either refuses and stays, or moves `pos` inside the buffer -/
theorem seekStart_cases (s : LM) (n : Nat) : ∃ t, t = (if s.cap == 0 then s.fill else s) ∧
    (s.seekStart n = (false, t) ∨
     (t.absPos ≤ n ∧ n - t.absPos ≤ t.cap ∧ s.seekStart n = (true, { t with pos := n - t.absPos }))) := by
  refine ⟨_, rfl, ?_⟩
  fun_cases LM.seekStart s n with
  | case1 | case2 => exact .inl rfl
  | case3 t h1 h2 => exact .inr ⟨Nat.le_of_not_lt h1, Nat.sub_le_iff_le_add'.mpr (Nat.le_of_not_lt h2), rfl⟩

/-- `consume`, `read` and `seekStart` only fill and move `pos` inside the buffer: whatever those two preserve, they preserve -/
theorem ops_ind (P : LM → Prop) (hfill : ∀ s, P s → P s.fill)
    (hpos : ∀ (s : LM) (p : Nat), P s → p ≤ s.cap → P { s with pos := p }) :
    (∀ s n, P s → P (s.consume n)) ∧ (∀ s k, P s → P (s.read k).2) ∧ (∀ s n, P s → P (s.seekStart n).2) := by
  have hcons : ∀ s n, P s → P (s.consume n) := fun s n h => hpos s _ h (Nat.min_le_right _ _)
  refine ⟨hcons, fun s k h => hcons _ _ (hfill s h), fun s n h => ?_⟩
  have ht : P (if s.cap == 0 then s.fill else s) := by split; exact hfill s h; exact h
  obtain ⟨t, rfl, e | ⟨_, h2, e⟩⟩ := seekStart_cases s n
  · rw [e]; exact ht
  · rw [e]; exact hpos _ _ ht h2

end Lmk

/-! The invariant of the reader theorems of Props/C04.lean. It stands here, under their namespace, because Dlt/Chunked.lean
    assumes the same of the reader over which it runs the iterator. -/
namespace Props
open Lmk

/-- a reader state as every operation sequence produces it from `new` with an admissible capacity -/
structure C04Ready (orig : List Nat) (s : LM) : Prop where
  inv : Inv orig s
  eofOk : EofOk s
  room : s.lowMark + cacheLine ≤ s.buf.length

end Props

namespace Lmk
open Props (C04Ready)

theorem ready_fill (orig : List Nat) (r : LM) (h : C04Ready orig r) :
    C04Ready orig r.fill ∧ Good orig r.fill ∧ r.fill.lowMark = r.lowMark ∧ r.fill.absPos + r.fill.pos = r.absPos + r.pos := by
  obtain ⟨_, f⟩ := fill_grows orig r h.inv
  obtain ⟨g1, g2⟩ := fill_good orig r h.inv h.eofOk h.room
  exact ⟨⟨f.inv, g2, by rw [f.low, f.len]; exact h.room⟩, g1, f.low, f.pos⟩

theorem ready_pos (orig : List Nat) (r : LM) (p : Nat) (h : C04Ready orig r) (hp : p ≤ r.cap) : C04Ready orig { r with pos := p } :=
  ⟨inv_pos orig r p h.inv hp, h.eofOk, h.room⟩

theorem ready_consume (orig : List Nat) (r : LM) (n : Nat) (h : C04Ready orig r) : C04Ready orig (r.consume n) :=
  ready_pos orig r _ h (Nat.min_le_right _ _)

end Lmk
