import Adlt.Buf.LowMark
/-! C04 (reader): the invariant - the buffered bytes are exactly the source's bytes at their absolute position - and what the
    single operations do to it: moving `pos`, the compaction step, one inner read appended, one pass of the fill loop. -/
namespace Lmk

theorem writeAt_length (a : List Nat) (off : Nat) (bs : List Nat) (h : off + bs.length ≤ a.length) :
    (writeAt a off bs).length = a.length := by
  unfold writeAt
  -- a prefix of `off`, all of `bs`, and what lies behind
  rw [List.take_of_length_le (Nat.le_sub_of_add_le' h), List.length_append, List.length_append,
    List.length_take_of_le (Nat.le_trans (Nat.le_add_right _ _) h), List.length_drop, Nat.add_sub_cancel' h]

theorem writeAt_take (a : List Nat) (off : Nat) (bs : List Nat) (h : off + bs.length ≤ a.length) :
    (writeAt a off bs).take (off + bs.length) = a.take off ++ bs := by
  unfold writeAt
  rw [List.take_of_length_le (Nat.le_sub_of_add_le' h)]
  exact List.take_left' (by rw [List.length_append, List.length_take_of_le (Nat.le_trans (Nat.le_add_right _ _) h)])

/-- `orig` = the whole source as it was at construction. -/
structure Inv (orig : List Nat) (s : LM) : Prop where
  capLe : s.cap ≤ s.buf.length
  posLe : s.pos ≤ s.cap
  data : s.buf.take s.cap = (orig.drop s.absPos).take s.cap
  src : s.src = orig.drop (s.absPos + s.cap)
  inOrig : s.absPos + s.cap ≤ orig.length

theorem new_inv (capacity lowMark : Nat) (src sched : List Nat) : Inv src (LM.new capacity lowMark src sched) :=
  { capLe := Nat.zero_le _, posLe := Nat.le_refl _, data := rfl, src := rfl, inOrig := Nat.zero_le _ }

/-- every tail of the held bytes is the source's stretch at its absolute position -/
theorem Inv.slice {orig : List Nat} {s : LM} (hi : Inv orig s) (k : Nat) :
    (s.buf.drop k).take (s.cap - k) = (orig.drop (s.absPos + k)).take (s.cap - k) := by
  rw [← List.drop_take, hi.data, List.drop_take, List.drop_drop]

theorem window_eq (orig : List Nat) (s : LM) (hi : Inv orig s) :
    s.window = (orig.drop (s.absPos + s.pos)).take (s.cap - s.pos) := hi.slice s.pos

theorem inv_pos (orig : List Nat) (s : LM) (p : Nat) (h : Inv orig s) (hp : p ≤ s.cap) : Inv orig { s with pos := p } :=
  { h with posLe := hp }

/-- `s'` is a later state of the reader `s`: the invariant holds, logical position, buffer size and low mark are those of `s`,
    and the look-ahead `cap - pos` has grown by `n` bytes -/
structure Grows (orig : List Nat) (s s' : LM) (n : Nat) : Prop where
  inv : Inv orig s'
  pos : s'.absPos + s'.pos = s.absPos + s.pos
  len : s'.buf.length = s.buf.length
  low : s'.lowMark = s.lowMark
  win : s'.cap - s'.pos = s.cap - s.pos + n

theorem Grows.refl {orig : List Nat} {s : LM} (hi : Inv orig s) : Grows orig s s 0 := ⟨hi, rfl, rfl, rfl, rfl⟩

theorem Grows.trans {orig : List Nat} {s t u : LM} {n m : Nat} (a : Grows orig s t n) (b : Grows orig t u m) :
    Grows orig s u (m + n) :=
  ⟨b.inv, b.pos.trans a.pos, b.len.trans a.len, b.low.trans a.low, by rw [b.win, a.win, Nat.add_assoc, Nat.add_comm n]⟩

theorem cacheLine_pos : 0 < cacheLine := by decide

theorem alignOff_lt (n : Nat) : alignOff n < cacheLine := by
  fun_cases alignOff n with
  | case1 => exact cacheLine_pos
  | case2 h => exact Nat.lt_of_le_of_ne (Nat.sub_le _ _) fun e => h (decide_eq_true e)

/-- the arithmetic of moving `buf[pos - off .. cap)` to the front of a buffer of `len` cells -/
theorem compact_arith {pos cap off len : Nat} (ho : off ≤ pos) (hp : pos ≤ cap) (hc : cap ≤ len) :
    cap - pos + off = cap - (pos - off) ∧ cap - pos + off ≤ len - (pos - off) ∧
    pos - off + (cap - pos + off) = cap := by
  have a5 : pos - off + off = pos := Nat.sub_add_cancel ho
  have a4 : pos - off + (cap - pos + off) = cap := by
    rw [Nat.add_comm (cap - pos), ← Nat.add_assoc, a5, Nat.add_sub_cancel' hp]
  exact ⟨Nat.eq_sub_of_add_eq' a4, Nat.le_sub_of_add_le' (Nat.le_trans (Nat.le_of_eq a4) hc), a4⟩

theorem compact_inv (orig : List Nat) (s : LM) (hi : Inv orig s) : Grows orig s s.compact 0 := by
  unfold LM.compact
  split
  · rename_i hge
    have hoff : alignOff (s.cap - s.pos) ≤ s.pos := Nat.le_trans (Nat.le_of_lt (alignOff_lt _)) hge
    generalize alignOff (s.cap - s.pos) = off at hoff ⊢
    obtain ⟨a1, a2, a4⟩ := compact_arith hoff hi.posLe hi.capLe
    have a3 := Nat.le_trans a2 (Nat.sub_le _ _)
    -- what is kept, `buf[pos - off .. cap)`, is the source from `absPos + (pos - off)` on
    have hkeep := hi.slice (s.pos - off)
    rw [← a1] at hkeep
    have hlen : ((s.buf.drop (s.pos - off)).take (s.cap - s.pos + off)).length = s.cap - s.pos + off :=
      List.length_take_of_le (by rw [List.length_drop]; exact a2)
    have hfit : 0 + ((s.buf.drop (s.pos - off)).take (s.cap - s.pos + off)).length ≤ s.buf.length := by
      rw [hlen, Nat.zero_add]; exact a3
    have hw := writeAt_take s.buf 0 _ hfit
    rw [hlen, Nat.zero_add, List.take_zero, List.nil_append] at hw
    have hbl := writeAt_length s.buf 0 _ hfit
    have hend : s.absPos + (s.pos - off) + (s.cap - s.pos + off) = s.absPos + s.cap := by rw [Nat.add_assoc, a4]
    exact ⟨{ capLe := hbl ▸ a3, posLe := Nat.le_add_left _ _, data := hw.trans hkeep, src := hend ▸ hi.src,
             inOrig := hend ▸ hi.inOrig },
      by show s.absPos + (s.pos - off) + off = _; rw [Nat.add_assoc, Nat.sub_add_cancel hoff], hbl, rfl, Nat.add_sub_cancel _ _⟩
  · exact .refl hi

theorem compact_eof (s : LM) : s.compact.eof = s.eof := by
  fun_cases LM.compact s <;> rfl

theorem compact_room (s : LM) (hw : s.cap - s.pos < s.lowMark) (hcap : s.lowMark + cacheLine ≤ s.buf.length) :
    s.compact.cap < s.buf.length ∧ s.compact.pos < cacheLine := by
  fun_cases LM.compact s with
  | case1 =>
    dsimp only  -- the fields first, or the unifier opens `alignOff` to find them
    exact ⟨Nat.lt_of_lt_of_le (Nat.add_lt_add hw (alignOff_lt _)) hcap, alignOff_lt _⟩
  | case2 h =>
    have hp := Nat.not_le.mp h
    exact ⟨Nat.lt_of_lt_of_le (Nat.lt_of_le_of_lt (Nat.le_add_of_sub_le (Nat.le_refl _)) (Nat.add_lt_add hw hp)) hcap, hp⟩

theorem wantOf_pos (sched : List Nat) (dst : Nat) (h : 1 ≤ dst) : 1 ≤ wantOf sched dst := by
  fun_cases wantOf sched dst with
  | case1 => exact h
  | case2 | case3 | case4 => exact Nat.le_max_left 1 _

/-- the inner read splits the source into what it hands over and the rest: no more than there is room for, and nothing only
    when there is no room or the source is exhausted -/
theorem innerRead_spec (src sched : List Nat) (dst : Nat) :
    ∃ got rest, innerRead src sched dst = (got, rest, sched.drop 1) ∧ got ++ rest = src ∧ got.length ≤ dst ∧
      (got.length = 0 → 1 ≤ dst → src = []) := by
  refine ⟨_, _, rfl, List.take_append_drop _ _,
    Nat.le_trans (List.length_take_le _ _) (Nat.le_trans (Nat.min_le_left _ _) (Nat.min_le_right _ _)), fun h0 hd => ?_⟩
  rw [List.length_take, Nat.min_eq_left (Nat.min_le_right _ _)] at h0
  -- `h0 : min (min want dst) src.length = 0`, and the first of the two is positive
  have hpos : 0 < min (wantOf sched dst) dst := Nat.lt_min.mpr ⟨wantOf_pos sched dst hd, hd⟩
  exact List.eq_nil_of_length_eq_zero ((Nat.min_eq_zero_iff.mp h0).resolve_left (Nat.ne_of_gt hpos))

/-- `got`, the front of the source, appended behind the held bytes -/
theorem append_grows (orig : List Nat) (c : LM) (got rest sched' : List Nat) (ci : Inv orig c)
    (h : got ++ rest = c.src) (hfit : got.length ≤ c.buf.length - c.cap) :
    Grows orig c (c.append got rest sched') got.length := by
  have hfit' : c.cap + got.length ≤ c.buf.length := Nat.add_le_of_le_sub' ci.capLe hfit
  have hbl := writeAt_length c.buf c.cap got hfit'
  have ho : got ++ rest = orig.drop (c.absPos + c.cap) := h.trans ci.src
  have hs : got.length + rest.length = orig.length - (c.absPos + c.cap) := by
    rw [← List.length_append, ho, List.length_drop]
  have hd : c.buf.take c.cap ++ got = (orig.drop c.absPos).take (c.cap + got.length) := by
    rw [ci.data, List.take_add, List.drop_drop, ← ho, List.take_left]
  have hr : rest = orig.drop (c.absPos + (c.cap + got.length)) := by
    rw [← Nat.add_assoc, ← List.drop_drop, ← ho, List.drop_left]
  exact ⟨{ capLe := hbl ▸ hfit', posLe := Nat.le_trans ci.posLe (Nat.le_add_right _ _),
           data := (writeAt_take c.buf c.cap got hfit').trans hd, src := hr,
           inOrig := (Nat.add_assoc _ _ _).symm ▸ Nat.add_le_of_le_sub' ci.inOrig (Nat.le.intro hs) },
    rfl, hbl, rfl, Nat.sub_add_comm ci.posLe⟩

/-- what the inner reader delivers after the compaction step -/
def LM.rd (s : LM) : List Nat × List Nat × List Nat :=
  innerRead s.compact.src s.compact.sched (s.compact.buf.length - s.compact.cap)

/-- one pass of the fill loop: compaction, then what the inner read delivered appended -/
def LM.pass (s : LM) : LM := s.compact.append s.rd.1 s.rd.2.1 s.rd.2.2

theorem fillLoop_succ (fuel : Nat) (s : LM) : LM.fillLoop (fuel + 1) s =
    if s.cap - s.pos < s.lowMark then
      if s.rd.1.length == 0 then { s.compact with eof := true, src := s.rd.2.1, sched := s.rd.2.2 }
      else if s.rd.1.length == s.compact.buf.length - s.compact.cap then s.pass
      else LM.fillLoop fuel s.pass
    else s := rfl

/-- what a pass does to the reader: the window grows by what was read (nothing only when there was no room or the source is
    exhausted), nothing else that matters moves -/
theorem pass_spec (orig : List Nat) (s : LM) (hi : Inv orig s) :
    Grows orig s s.pass s.rd.1.length ∧
    (s.rd.1.length = 0 → 1 ≤ s.compact.buf.length - s.compact.cap → s.compact.src = []) := by
  have c := compact_inv orig s hi
  obtain ⟨got, rest, e, hsrc, hd, hz⟩ := innerRead_spec s.compact.src s.compact.sched (s.compact.buf.length - s.compact.cap)
  unfold LM.pass LM.rd
  rw [e]
  exact ⟨c.trans (append_grows orig s.compact got rest _ c.inv hsrc hd), hz⟩

end Lmk
