/-! Model of the id pseudonymisation of `AnonymizePlugin` (src/plugins/anonymize.rs): ECU ids get `E001, E002, …` in order of
    first appearance; APIDs get `A001, …` per (pseudonymised) ECU; CTIDs get `C001, …` per (ECU, APID).
    `DltChar4::from_str` keeps the first four characters of the formatted string, so the scheme has room for 999 ids per table. -/
namespace Anon

abbrev Id := List UInt8

/-- position-based assignment: the k-th distinct key (1-based) -/
def rankOf (keys : List Id) (k : Id) : Option Nat := (keys.idxOf? k).map (· + 1)

/-- `format!("{c}{:03}", n)` truncated to 4 characters -/
def fmt (c : Char) (n : Nat) : List Char :=
  let ds := (toString n).toList
  (c :: (List.replicate (3 - ds.length) '0' ++ ds)).take 4

structure ApidEntry where
  apid : Id
  num : Nat                -- `apid_map.len() + 1` when the entry is made: stored, where ECU and CTID numbers are positions
  ctids : List Id          -- in order of first appearance
deriving Repr, DecidableEq

structure St where
  ecus : List Id := []                          -- in order of first appearance
  apids : List (Nat × List ApidEntry) := []     -- per ECU number
deriving Repr

def getApids (s : St) (e : Nat) : List ApidEntry := match s.apids.find? (·.1 == e) with | some p => p.2 | none => []
def setApids (s : St) (e : Nat) (l : List ApidEntry) : St :=
  if s.apids.any (·.1 == e) then { s with apids := s.apids.map fun p => if p.1 == e then (e, l) else p }
  else { s with apids := s.apids ++ [(e, l)] }

/-- one message: old ecu, optional (apid, ctid) ↦ new state and the pseudonym numbers (ecu, apid?, ctid?) -/
def step (s : St) (ecu : Id) (ac : Option (Id × Id)) : St × Nat × Option (Nat × Nat) :=
  let (s, en) := match rankOf s.ecus ecu with
    | some n => (s, n)
    | none => ({ s with ecus := s.ecus ++ [ecu] }, s.ecus.length + 1)
  match ac with
  | none => (s, en, none)
  | some (a, c) =>
    let l := getApids s en
    let (l, ae) := match l.find? (·.apid == a) with
      | some e => (l, e)
      | none => let e : ApidEntry := { apid := a, num := l.length + 1, ctids := [] }; (l ++ [e], e)
    let (ae', cn) := match rankOf ae.ctids c with
      | some n => (ae, n)
      | none => ({ ae with ctids := ae.ctids ++ [c] }, ae.ctids.length + 1)
    let l := l.map fun x => if x.apid == a then ae' else x
    (setApids s en l, en, some (ae.num, cn))

def run : St → List (Id × Option (Id × Id)) → List (Nat × Option (Nat × Nat))
  | _, [] => []
  | s, (e, ac) :: t => let r := step s e ac; r.2 :: run r.1 t

-- `Id` is `List UInt8`: these are the instances the search finds anyway, for every `List UInt8`; named so that the search is
-- not repeated (each one walks through the order classes of `UInt8` before it arrives at `DecidableEq`)
instance : LawfulBEq Id := @List.instLawfulBEq _ _ instLawfulBEq
instance : ReflBEq Id := LawfulBEq.toReflBEq

/-- the number of an id is the position at which it stands -/
theorem rank_injective (keys : List Id) (a b : Id) (n : Nat)
    (ha : rankOf keys a = some n) (hb : rankOf keys b = some n) : a = b := by
  simp only [rankOf, Option.map_eq_some_iff] at ha hb
  obtain ⟨i, hi, hin⟩ := ha
  obtain ⟨j, hj, hjn⟩ := hb
  obtain rfl : i = j := Nat.succ.inj (hin.trans hjn.symm)
  obtain ⟨_, hi, _⟩ := List.idxOf?_eq_some_iff.mp hi
  obtain ⟨_, hj, _⟩ := List.idxOf?_eq_some_iff.mp hj
  exact hi.symm.trans hj

theorem rank_eq_iff (keys : List Id) (a b : Id) (n m : Nat) (ha : rankOf keys a = some n) (hb : rankOf keys b = some m) :
    n = m ↔ a = b :=
  ⟨fun h => rank_injective keys a b m (h ▸ ha) hb, fun h => Option.some.inj (ha.symm.trans (h ▸ hb))⟩

def digits3 (n : Nat) : List Nat := [n / 100 % 10, n / 10 % 10, n % 10]

theorem digits3_value (n : Nat) (h : n < 1000) : n / 100 % 10 * 100 + n / 10 % 10 * 10 + n % 10 = n := by
  rw [(Nat.div_div_eq_div_mul n 10 10).symm, Nat.mod_eq_of_lt (Nat.div_lt_of_lt_mul (Nat.div_lt_of_lt_mul h)),
    ← Nat.mul_assoc _ 10 10, ← Nat.add_mul, Nat.div_add_mod', Nat.div_add_mod']

theorem digits3_injective (a b : Nat) (ha : a < 1000) (hb : b < 1000) (h : digits3 a = digits3 b) : a = b := by
  simp only [digits3, List.cons.injEq, and_true] at h
  rw [← digits3_value a ha, ← digits3_value b hb, h.1, h.2.1, h.2.2]

/-- what `{:03}` produces below 1000 -/
theorem pad3_toDigits (n : Nat) (h : n < 1000) :
    List.replicate (3 - (Nat.toDigits 10 n).length) '0' ++ Nat.toDigits 10 n = (digits3 n).map Nat.digitChar := by
  unfold digits3
  by_cases h1 : n < 10
  · rw [Nat.toDigits_of_lt_base h1, Nat.div_eq_of_lt (Nat.lt_trans h1 (by decide)), Nat.div_eq_of_lt h1, Nat.zero_mod,
      Nat.mod_eq_of_lt h1]
    rfl
  · rw [Nat.toDigits_of_base_le (by decide) (Nat.le_of_not_lt h1)]
    by_cases h2 : n < 100
    · rw [Nat.toDigits_of_lt_base (Nat.div_lt_of_lt_mul h2), Nat.div_eq_of_lt h2, Nat.zero_mod,
        Nat.mod_eq_of_lt (Nat.div_lt_of_lt_mul h2)]
      rfl
    · have h3 : n / 10 / 10 < 10 := Nat.div_lt_of_lt_mul (Nat.div_lt_of_lt_mul h)
      rw [Nat.toDigits_of_base_le (by decide) ((Nat.le_div_iff_mul_le (by decide)).2 (Nat.le_of_not_lt h2)),
        Nat.toDigits_of_lt_base h3, (Nat.div_div_eq_div_mul n 10 10).symm, Nat.mod_eq_of_lt h3]
      rfl

theorem fmt_eq_digits (c : Char) (n : Nat) (h : n < 1000) : fmt c n = c :: (digits3 n).map Nat.digitChar := by
  unfold fmt
  simp only [Nat.toString_eq_repr, Nat.toList_repr]
  rw [pad3_toDigits n h]; rfl

theorem digitChar_injective (x y : Nat) (hx : x < 10) (hy : y < 10) (h : x.digitChar = y.digitChar) : x = y := by
  rw [← Nat.toNat_digitChar_sub_48_of_lt_ten hx, h, Nat.toNat_digitChar_sub_48_of_lt_ten hy]

theorem fmt_injective (c : Char) (a b : Nat) (ha : a < 1000) (hb : b < 1000) (h : fmt c a = fmt c b) : a = b := by
  rw [fmt_eq_digits c a ha, fmt_eq_digits c b hb] at h
  apply digits3_injective a b ha hb
  simp only [digits3, List.map_cons, List.map_nil, List.cons.injEq, true_and, and_true] at h ⊢
  have dc := fun x y => digitChar_injective (x % 10) (y % 10) (Nat.mod_lt _ (by decide)) (Nat.mod_lt _ (by decide))
  exact ⟨dc _ _ h.1, dc _ _ h.2.1, dc _ _ h.2.2⟩

end Anon
