import Adlt.Plugins.Anon
/-! C19, anonymiser at stream level. Every number `Anon.run` hands out is the number found in the *final* tables
    (`run_agrees`), and in a table the number of an id is its position (`rankOf`), so that the same number means the same id
    (`rank_eq_iff`). ECU and CTID numbers are positions by construction (both go through `intern`); an APID number is a stored
    field (`ApidEntry.num`), and the invariant `WfL` says that it is the position all the same. Each level (`ensureEntry`,
    `apidStep`, `step`, the run) has one lemma `…_facts` with the same three parts: the numbers just handed out are in the new
    tables / whatever was in the old tables is in the new / the invariant is kept.
    `Anon.step` is one function; `step_eq` writes it as the composition of the pieces defined here. -/
namespace Anon

abbrev In := Id × Option (Id × Id)
abbrev Out := Nat × Option (Nat × Nat)

def intern (keys : List Id) (k : Id) : List Id × Nat :=
  match rankOf keys k with
  | some n => (keys, n)
  | none => (keys ++ [k], keys.length + 1)

def withEcu (s : St) (e : Id) : St := { s with ecus := (intern s.ecus e).1 }

def findA (l : List ApidEntry) (a : Id) : Option ApidEntry := l.find? (·.apid == a)

def newEntry (l : List ApidEntry) (a : Id) : ApidEntry := { apid := a, num := l.length + 1, ctids := [] }

def ensureEntry (l : List ApidEntry) (a : Id) : List ApidEntry × ApidEntry :=
  match findA l a with
  | some e => (l, e)
  | none => (l ++ [newEntry l a], newEntry l a)

def withCtid (ae : ApidEntry) (c : Id) : ApidEntry := { ae with ctids := (intern ae.ctids c).1 }

def apidStep (l : List ApidEntry) (a c : Id) : List ApidEntry × Nat × Nat :=
  ((ensureEntry l a).1.map fun x => if x.apid == a then withCtid (ensureEntry l a).2 c else x, (ensureEntry l a).2.num,
   (intern (ensureEntry l a).2.ctids c).2)

theorem step_eq (s : St) (ecu : Id) (ac : Option (Id × Id)) : step s ecu ac =
    match ac with
    | none => (withEcu s ecu, (intern s.ecus ecu).2, none)
    | some (a, c) =>
      (setApids (withEcu s ecu) (intern s.ecus ecu).2 (apidStep (getApids (withEcu s ecu) (intern s.ecus ecu).2) a c).1,
       (intern s.ecus ecu).2, some (apidStep (getApids (withEcu s ecu) (intern s.ecus ecu).2) a c).2) := by
  -- `step` takes its three tables in turn (ECU, APID, CTID), each time by a `match` on a look-up whose result it binds with
  -- `let (x, y) := …`; the right-hand side makes the same three look-ups inside `intern` / `ensureEntry`. The ECU look-up is
  -- settled first, once for both shapes of `ac`; then: case on each look-up, and let `dsimp only` reduce the `match` and the
  -- `let` on the constructor this exposes on both sides (a new entry has no CTIDs: its look-up computes).
  unfold step
  split
  next s1 en heq =>
    have h1 : (s1, en) = (withEcu s ecu, (intern s.ecus ecu).2) := by
      rw [← heq]; unfold withEcu intern; cases rankOf s.ecus ecu <;> rfl
    cases h1
    cases ac with
    | none => rfl
    | some p =>
      obtain ⟨a, c⟩ := p
      generalize getApids _ _ = l
      dsimp only
      unfold apidStep withCtid ensureEntry findA intern newEntry
      dsimp only
      cases List.find? (fun x => x.apid == a) l with
      | none => rfl
      | some e =>
        dsimp only
        cases rankOf e.ctids c <;> rfl

theorem rank_append_stable (keys more : List Id) (k : Id) (n : Nat) (h : rankOf keys k = some n) :
    rankOf (keys ++ more) k = some n := by
  simp only [rankOf, List.idxOf?, List.findIdx?_append, Option.map_eq_some_iff] at h ⊢
  obtain ⟨i, hi, hin⟩ := h
  exact ⟨i, by rw [hi]; rfl, hin⟩

theorem rank_none_iff (keys : List Id) (k : Id) : rankOf keys k = none ↔ k ∉ keys := by
  simp only [rankOf, Option.map_eq_none_iff, List.idxOf?_eq_none_iff]

theorem rank_snoc_new (keys : List Id) (k : Id) (h : rankOf keys k = none) : rankOf (keys ++ [k]) k = some (keys.length + 1) := by
  simp only [rankOf, Option.map_eq_none_iff, List.idxOf?] at h
  simp only [rankOf, List.idxOf?, List.findIdx?_append, h, Option.none_or, List.findIdx?_cons, beq_self_eq_true, if_true,
    Option.map_some, Nat.zero_add]

theorem rank_bounds (keys : List Id) (k : Id) (n : Nat) (h : rankOf keys k = some n) : 1 ≤ n ∧ n ≤ keys.length := by
  simp only [rankOf, Option.map_eq_some_iff] at h
  obtain ⟨i, hi, rfl⟩ := h
  exact ⟨Nat.succ_pos i, (List.idxOf?_eq_some_iff.mp hi).1⟩

theorem intern_rank (keys : List Id) (k : Id) : rankOf (intern keys k).1 k = some (intern keys k).2 := by
  unfold intern
  cases h : rankOf keys k with
  | some n => exact h
  | none => exact rank_snoc_new keys k h

theorem intern_stable (keys : List Id) (k k' : Id) (n : Nat) (h : rankOf keys k' = some n) : rankOf (intern keys k).1 k' = some n := by
  unfold intern
  cases rankOf keys k with
  | some _ => exact h
  | none => exact rank_append_stable keys [k] k' n h

theorem key_ite {α κ : Type} [BEq κ] [LawfulBEq κ] (key : α → κ) {k : κ} {y : α} (hy : key y = k) (x : α) :
    key (if key x == k then y else x) = key x := by
  by_cases h : (key x == k) = true
  · rw [if_pos h, hy, eq_of_beq h]
  · rw [if_neg h]

/-- look-up in an association list (keyed by `key`) after the entry of `k` has been overwritten by `y` -/
theorem find?_update {α κ : Type} [BEq κ] [LawfulBEq κ] [DecidableEq κ] (key : α → κ) {k : κ} {y : α} (hy : key y = k) (k' : κ)
    (l : List α) :
    (l.map fun x => if key x == k then y else x).find? (key · == k') =
      if k' = k then (l.find? (key · == k)).map fun _ => y else l.find? (key · == k') := by
  have hkey : ((key · == k') ∘ fun x => if key x == k then y else x) = (key · == k') :=
    funext fun x => congrArg (· == k') (key_ite key hy x)
  rw [List.find?_map, hkey]
  -- the element found has key `k'`, which decides the `if` of the overwriting function
  have hk' : ∀ x, l.find? (key · == k') = some x → (key x == k') = true := fun _ => List.find?_some
  split
  next h => subst h; exact Option.map_congr fun x hx => if_pos (hk' x hx)
  next h =>
    exact (Option.map_congr fun x hx => if_neg fun hb => h ((eq_of_beq (hk' x hx)).symm.trans (eq_of_beq hb))).trans Option.map_id'

theorem setApids_ecus (s : St) (e : Nat) (l : List ApidEntry) : (setApids s e l).ecus = s.ecus :=
  (apply_ite St.ecus ..).trans (ite_self _)

theorem getApids_setApids (s : St) (e : Nat) (l : List ApidEntry) (e' : Nat) :
    getApids (setApids s e l) e' = if e' = e then l else getApids s e' := by
  -- `any` as `isSome (find? ·)`: key present (its entry is overwritten) or absent (appended), `e' = e` or not
  unfold getApids setApids
  rw [← List.isSome_find? (f := fun x : Nat × List ApidEntry => x.1 == e)]
  cases hfe : s.apids.find? (fun p => p.1 == e) with
  | some q =>
    rw [Option.isSome_some, if_pos rfl]
    dsimp only
    rw [find?_update Prod.fst (rfl : (e, l).1 = e) e' s.apids, hfe, Option.map_some]
    by_cases he : e' = e
    · rw [if_pos he, if_pos he]
    · rw [if_neg he, if_neg he]
  | none =>
    rw [Option.isSome_none, if_neg Bool.false_ne_true]
    dsimp only
    rw [List.find?_append, List.find?_singleton]
    by_cases he : e' = e
    · subst he
      rw [hfe, if_pos rfl, Option.none_or, if_pos (beq_iff_eq.mpr rfl)]
    · rw [if_neg he, if_neg (fun h => he (eq_of_beq h).symm), Option.or_none]

theorem findA_some (l : List ApidEntry) (a : Id) (x : ApidEntry) (h : findA l a = some x) : x.apid = a ∧ x ∈ l :=
  ⟨eq_of_beq (List.find?_some (p := fun x : ApidEntry => x.apid == a) h), List.mem_of_find?_eq_some h⟩

theorem findA_none (l : List ApidEntry) (a : Id) (h : findA l a = none) : rankOf (l.map (·.apid)) a = none := by
  unfold findA at h
  rw [List.find?_eq_none] at h
  rw [rank_none_iff, List.mem_map]
  rintro ⟨x, hx, rfl⟩
  exact h x hx (beq_self_eq_true _)

theorem findA_update (l : List ApidEntry) {a : Id} {y : ApidEntry} (hy : y.apid = a) (b : Id) :
    findA (l.map fun x => if x.apid == a then y else x) b = if b = a then (findA l a).map fun _ => y else findA l b :=
  find?_update ApidEntry.apid hy b l

theorem findA_snoc (l : List ApidEntry) (e : ApidEntry) (b : Id) :
    findA (l ++ [e]) b = (findA l b).or (if e.apid == b then some e else none) := by
  unfold findA
  rw [List.find?_append, List.find?_singleton]

/-- the stored number of an entry is the rank of its APID among the APIDs of the list: the APID table numbers its ids as the
    ECU and CTID tables do, by position -/
def WfL (l : List ApidEntry) : Prop := ∀ x ∈ l, rankOf (l.map (·.apid)) x.apid = some x.num

theorem WfL.snoc {l : List ApidEntry} (hw : WfL l) (a : Id) (hno : findA l a = none) : WfL (l ++ [newEntry l a]) := by
  intro x hx
  rw [List.map_append]
  rcases List.mem_append.1 hx with h | h
  · exact rank_append_stable _ _ _ _ (hw x h)
  · cases List.mem_singleton.1 h
    have := rank_snoc_new _ a (findA_none l a hno)
    rw [List.length_map] at this
    exact this

/-- `ensureEntry`: the entry of `a` is found afterwards / what was found before still is / `WfL` is kept -/
theorem ensureEntry_facts (l : List ApidEntry) (a : Id) :
    findA (ensureEntry l a).1 a = some (ensureEntry l a).2 ∧
    (∀ b x, findA l b = some x → findA (ensureEntry l a).1 b = some x) ∧
    (WfL l → WfL (ensureEntry l a).1) := by
  unfold ensureEntry
  cases hf : findA l a with
  | some e => exact ⟨hf, fun _ _ h => h, fun h => h⟩
  | none =>
    refine ⟨?_, fun b x hb => ?_, fun hw => hw.snoc a hf⟩
    · rw [findA_snoc, hf]; simp [newEntry]
    · rw [findA_snoc, hb, Option.some_or]

/-- in `l`, APID `k.1` has an entry, with number `n.1`, in which CTID `k.2` has number `n.2` -/
def Has (l : List ApidEntry) (k : Id × Id) (n : Nat × Nat) : Prop :=
  ∃ x, findA l k.1 = some x ∧ x.num = n.1 ∧ rankOf x.ctids k.2 = some n.2

/-- `apidStep`: the numbers handed out are in the new list / whatever was in the old list is in the new / `WfL` is kept -/
theorem apidStep_facts (l : List ApidEntry) (a c : Id) :
    Has (apidStep l a c).1 (a, c) (apidStep l a c).2 ∧
    (∀ k n, Has l k n → Has (apidStep l a c).1 k n) ∧
    (WfL l → WfL (apidStep l a c).1) := by
  unfold apidStep
  obtain ⟨s1, s3, s4⟩ := ensureEntry_facts l a
  generalize ensureEntry l a = p at *
  dsimp only
  obtain ⟨s2, hae⟩ := findA_some _ _ _ s1
  have hya : (withCtid p.2 c).apid = a := s2
  -- look-up in the new list: under `a` the entry with the CTID added, under any other APID what `p.1` has
  have law := findA_update p.1 hya
  rw [s1, Option.map_some] at law
  refine ⟨⟨_, (law a).trans (if_pos rfl), rfl, intern_rank _ _⟩, ?_, fun hw x' hx' => ?_⟩
  · rintro ⟨b, c'⟩ n ⟨x, x1, x2, x3⟩
    have x1' := s3 b x x1
    by_cases hba : b = a
    · subst hba
      obtain rfl : p.2 = x := Option.some.inj (s1.symm.trans x1')
      exact ⟨_, (law b).trans (if_pos rfl), x2, intern_stable _ _ _ _ x3⟩
    · exact ⟨x, ((law b).trans (if_neg hba)).trans x1', x2, x3⟩
  · have hk : (p.1.map fun x => if x.apid == a then withCtid p.2 c else x).map (·.apid) = p.1.map (·.apid) :=
      List.map_map.trans (List.map_congr_left fun x _ => key_ite ApidEntry.apid hya x)
    obtain ⟨x, hx, rfl⟩ := List.mem_map.1 hx'
    rw [hk, key_ite ApidEntry.apid hya x]
    by_cases h : (x.apid == a) = true
    · rw [if_pos h, eq_of_beq h, ← s2]
      exact s4 hw p.2 hae
    · rw [if_neg h]
      exact s4 hw x hx

/-- in one list whose stored numbers are ranks: the same APID number iff the same APID -/
theorem Has.apid_iff {l : List ApidEntry} (hw : WfL l) {k k' : Id × Id} {n n' : Nat × Nat} (h : Has l k n) (h' : Has l k' n') :
    n.1 = n'.1 ↔ k.1 = k'.1 := by
  obtain ⟨x, x1, x2, _⟩ := h
  obtain ⟨y, y1, y2, _⟩ := h'
  obtain ⟨hx, hxl⟩ := findA_some _ _ _ x1
  obtain ⟨hy, hyl⟩ := findA_some _ _ _ y1
  rw [← x2, ← y2, ← hx, ← hy]
  exact rank_eq_iff _ _ _ _ _ (hw x hxl) (hw y hyl)

/-- … and under the same APID: the same CTID number iff the same CTID (both are ranks in the CTID list of one entry) -/
theorem Has.ctid_iff {l : List ApidEntry} {k k' : Id × Id} {n n' : Nat × Nat} (h : Has l k n) (h' : Has l k' n') (ha : k.1 = k'.1) :
    n.2 = n'.2 ↔ k.2 = k'.2 := by
  obtain ⟨x, x1, _, x3⟩ := h
  obtain ⟨y, y1, _, y3⟩ := h'
  rw [ha] at x1
  obtain rfl : x = y := Option.some.inj (x1.symm.trans y1)
  exact rank_eq_iff _ _ _ _ _ x3 y3

def Wf (s : St) : Prop := ∀ en, WfL (getApids s en)

/-- the numbers of a message, looked up in the tables of a state -/
def Agrees (F : St) (m : In) (o : Out) : Prop :=
  rankOf F.ecus m.1 = some o.1 ∧ ∀ k n, m.2 = some k → o.2 = some n → Has (getApids F o.1) k n

/-- one step: its numbers are in the new tables / whatever was in the old tables is in the new / `Wf` is kept -/
theorem step_facts (s : St) (e : Id) (ac : Option (Id × Id)) :
    Agrees (step s e ac).1 (e, ac) (step s e ac).2 ∧
    (∀ m o, Agrees s m o → Agrees (step s e ac).1 m o) ∧
    (Wf s → Wf (step s e ac).1) := by
  rw [step_eq]
  have he : ∀ m o, Agrees s m o → Agrees (withEcu s e) m o := fun m o h => ⟨intern_stable s.ecus e m.1 o.1 h.1, h.2⟩
  cases ac with
  | none => exact ⟨⟨intern_rank s.ecus e, fun _ _ hk => nomatch hk⟩, he, id⟩
  | some p =>
    dsimp only
    obtain ⟨f1, f2, f3⟩ := apidStep_facts (getApids (withEcu s e) (intern s.ecus e).2) p.1 p.2
    generalize apidStep (getApids (withEcu s e) (intern s.ecus e).2) p.1 p.2 = r at *
    have hget := getApids_setApids (withEcu s e) (intern s.ecus e).2 r.1
    have hecus := setApids_ecus (withEcu s e) (intern s.ecus e).2 r.1
    refine ⟨⟨?_, ?_⟩, fun m o h => ⟨?_, fun k n hk hn => ?_⟩, fun h en' => ?_⟩
    · rw [hecus]; exact intern_rank s.ecus e
    · intro k n hk hn
      cases hk
      cases hn
      rw [hget, if_pos rfl]
      exact f1
    · rw [hecus]; exact (he m o h).1
    · rw [hget]
      split
      next ho => exact f2 k n (ho ▸ (he m o h).2 k n hk hn)
      next => exact (he m o h).2 k n hk hn
    · rw [hget]
      split
      · exact f3 (h _)
      · exact h en'

/-- the state after the whole stream -/
def final : St → List (Id × Option (Id × Id)) → St
  | s, [] => s
  | s, (e, ac) :: t => final (step s e ac).1 t

theorem run_facts (ms : List In) : ∀ s,
    (∀ p ∈ ms.zip (run s ms), Agrees (final s ms) p.1 p.2) ∧
    (∀ m o, Agrees s m o → Agrees (final s ms) m o) ∧
    (Wf s → Wf (final s ms)) := by
  induction ms with
  | nil => exact fun s => ⟨fun _ hp => absurd hp List.not_mem_nil, fun _ _ h => h, id⟩
  | cons x t ih =>
    intro s
    obtain ⟨g1, g2, g3⟩ := step_facts s x.1 x.2
    obtain ⟨i1, i2, i3⟩ := ih (step s x.1 x.2).1
    exact ⟨List.forall_mem_cons.2 ⟨i2 _ _ g1, i1⟩, fun m o hm => i2 m o (g2 m o hm), fun h => i3 (g3 h)⟩

theorem run_agrees (ms : List In) : ∀ p ∈ ms.zip (run {} ms), Agrees (final {} ms) p.1 p.2 := (run_facts ms {}).1

theorem final_wf (ms : List In) : Wf (final {} ms) := (run_facts ms {}).2.2 fun _ => nofun

end Anon
