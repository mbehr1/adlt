/-! Model of the plugin stage `plugins_process_msgs` (src/plugins/mod.rs): every message is passed through the active
    plugins in order; a plugin may rewrite the message and may veto it (`process_msg` returns false: the remaining plugins
    are skipped and the message is not forwarded). A plugin is any deterministic function of the messages it has been
    handed so far (its state) and the current message. -/
namespace Plg

structure PMsg where
  index : Nat
  recv : Nat
  ecu : List UInt8
  ts : Nat
  lifecycle : Nat
  payload : List UInt8
  ext : Option (List UInt8)      -- extended header bytes, if present
  text : Option String           -- decoded payload text set by a plugin
deriving Repr, DecidableEq

structure Plugin where
  proc : List PMsg → PMsg → PMsg × Bool

/-- a plugin instance: the plugin and what it has been handed so far -/
abbrev Inst := Plugin × List PMsg

/-- one message through the plugin list: (updated instances, message after the plugins that saw it, forwarded?) -/
def through : List Inst → PMsg → List Inst × PMsg × Bool
  | [], m => ([], m, true)
  | (p, h) :: rest, m =>
    let r := p.proc h m
    if r.2 then
      let t := through rest r.1
      ((p, h ++ [m]) :: t.1, t.2.1, t.2.2)
    else ((p, h ++ [m]) :: rest, r.1, false)

def stage : List Inst → List PMsg → List PMsg
  | _, [] => []
  | ps, m :: ms =>
    let r := through ps m
    if r.2.2 then r.2.1 :: stage r.1 ms else stage r.1 ms

def pluginsProcess (ps : List Plugin) (ms : List PMsg) : List PMsg := stage (ps.map fun p => (p, [])) ms

/-- what a decoding plugin must leave alone: index, reception time, ECU, payload bytes, lifecycle, and an extended
    header that exists -/
def Keeps (a b : PMsg) : Prop :=
  a.index = b.index ∧ a.recv = b.recv ∧ a.ecu = b.ecu ∧ a.payload = b.payload ∧ a.lifecycle = b.lifecycle ∧
  (b.ext.isSome = true → a.ext = b.ext)

theorem Keeps.refl (a : PMsg) : Keeps a a := ⟨rfl, rfl, rfl, rfl, rfl, fun _ => rfl⟩
theorem Keeps.trans {a b c : PMsg} (h1 : Keeps a b) (h2 : Keeps b c) : Keeps a c := by
  obtain ⟨a1, a2, a3, a4, a5, a6⟩ := h1
  obtain ⟨b1, b2, b3, b4, b5, b6⟩ := h2
  exact ⟨a1.trans b1, a2.trans b2, a3.trans b3, a4.trans b4, a5.trans b5, fun hc => (a6 (b6 hc ▸ hc)).trans (b6 hc)⟩

/-- a decoder: never vetoes, keeps the protected fields -/
def Conservative (p : Plugin) : Prop := ∀ h m, (p.proc h m).2 = true ∧ Keeps (p.proc h m).1 m
/-- every decoder but the rewrite plugin -/
def KeepsTs (p : Plugin) : Prop := ∀ h m, (p.proc h m).1.ts = m.ts

theorem through_cons_true (p : Plugin) (h : List PMsg) (rest : List Inst) (m : PMsg) (h1 : (p.proc h m).2 = true) :
    through ((p, h) :: rest) m =
      ((p, h ++ [m]) :: (through rest (p.proc h m).1).1, (through rest (p.proc h m).1).2.1, (through rest (p.proc h m).1).2.2) :=
  if_pos h1

theorem through_plugins (ps : List Inst) (m : PMsg) : (through ps m).1.map (·.1) = ps.map (·.1) := by
  fun_induction through ps m with
  | case1 | case3 => rfl
  | case2 p h rest m r hr t ih => exact congrArg (p :: ·) ih

theorem through_rel (R : PMsg → PMsg → Prop) (refl : ∀ a, R a a) (trans : ∀ a b c, R a b → R b c → R a c)
    (ps : List Inst) (hp : ∀ i ∈ ps, ∀ h m, (i.1.proc h m).2 = true ∧ R (i.1.proc h m).1 m) (m : PMsg) :
    (through ps m).2.2 = true ∧ R (through ps m).2.1 m := by
  induction ps generalizing m with
  | nil => exact ⟨rfl, refl m⟩
  | cons i rest ih =>
    obtain ⟨p, h⟩ := i
    obtain ⟨h1, h2⟩ := hp (p, h) List.mem_cons_self h m
    obtain ⟨i1, i2⟩ := ih (fun i hi => hp i (List.mem_cons_of_mem _ hi)) (p.proc h m).1
    rw [through_cons_true p h rest m h1]
    exact ⟨i1, trans _ _ _ i2 h2⟩

theorem stage_conservative (ms : List PMsg) : ∀ (ps : List Inst), (∀ p ∈ ps.map (·.1), Conservative p) →
    (stage ps ms).length = ms.length ∧ ∀ k (h1 : k < (stage ps ms).length) (h2 : k < ms.length), Keeps (stage ps ms)[k] ms[k] := by
  induction ms with
  | nil => exact fun _ _ => ⟨rfl, fun k h1 _ => absurd h1 (Nat.not_lt_zero k)⟩
  | cons m t ih =>
    intro ps hc
    obtain ⟨f1, f2⟩ := through_rel Keeps Keeps.refl (fun _ _ _ => Keeps.trans) ps
      (fun i hi => hc i.1 (List.mem_map_of_mem hi)) m
    obtain ⟨l, hk⟩ := ih (through ps m).1 (by rw [through_plugins]; exact hc)
    have hst : stage ps (m :: t) = (through ps m).2.1 :: stage (through ps m).1 t := if_pos f1
    rw [hst]
    refine ⟨congrArg (· + 1) l, fun k h1 h2 => ?_⟩
    cases k with
    | zero => exact f2
    | succ k => exact hk k (Nat.lt_of_succ_lt_succ h1) (Nat.lt_of_succ_lt_succ h2)

end Plg
