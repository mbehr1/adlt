import Adlt.Zip.Model
/-! Lemmas for the extraction half of C20 (Props/C20.lean): confinement of every written path, two facts about `extract` that
    exactness of the selection needs, and what lands in the directory. -/
namespace Zipm

/-- joining onto a directory commutes with resolution while the depth walk succeeds: the stack never shrinks below `base` -/
theorem resolve_append (cs : List Comp) (base st : List String) (h : (depthAfter st.length cs).isSome = true) :
    resolve (base ++ st) cs = base ++ resolve st cs := by
  fun_induction resolve st cs with
  | case1 => rfl
  | case2 => cases h
  | case3 st t ih =>
    rw [depthAfter] at h
    split at h
    · cases h
    · rename_i hne
      rw [resolve, List.dropLast_append_of_ne_nil fun h0 => hne (by rw [h0]; rfl)]
      exact ih (by rw [List.length_dropLast]; exact h)
  | case4 st t ih => exact ih h
  | case5 st s t ih =>
    rw [resolve, List.append_assoc]
    exact ih (by rw [List.length_append]; exact h)

/-- **confinement**: a member name accepted by the `enclosed_name` walk, joined onto any directory, resolves to a path
    below that directory -/
theorem confined (base : List String) (cs : List Comp) (h : staysInside cs = true) :
    ∃ rel, resolve base cs = base ++ rel :=
  ⟨resolve [] cs, by rw [← resolve_append cs base [] h, List.append_nil]⟩

theorem enclosedName_isSome (s : String) : (enclosedName s).isSome = staysInside (comps s) := by
  unfold enclosedName
  cases staysInside (comps s) <;> rfl

theorem filterMap_eq_filter_map {α β} (f : α → Option β) (p : α → Bool) (h : α → β) (l : List α)
    (hp : ∀ x ∈ l, f x = if p x then some (h x) else none) : l.filterMap f = (l.filter p).map h := by
  induction l with
  | nil => rfl
  | cons x t ih =>
    have hx := hp x List.mem_cons_self
    have ht := ih (fun y hy => hp y (List.mem_cons_of_mem _ hy))
    by_cases hpx : p x = true
    · simp [hx, hpx, ht]
    · have : p x = false := by simpa using hpx
      simp [hx, this, ht]

/-- with an empty files filter nothing is written: the "nothing matches" shortcut of `extractArchive` is no case of its own -/
theorem extract_nil (rm : Option (String × String)) (ms : List Member) : extract [] rm ms = [] := by
  unfold extract
  rw [List.filterMap_eq_nil_iff]
  intro m _
  unfold extractOne
  split <;> rfl

def pathOf (x : String × List UInt8) : List String := resolve [] (comps x.1)

theorem landGo_spec (l : List (String × List UInt8)) (seen : List (List String)) :
    ((landGo seen l).map pathOf).Nodup ∧
    ∀ x ∈ landGo seen l, x ∈ l ∧ creatable x.1 = true ∧ pathOf x ∉ seen := by
  fun_induction landGo seen l with
  | case1 => exact ⟨List.nodup_nil, List.forall_mem_nil _⟩
  | case2 seen n d t p hc ih =>
    obtain ⟨i1, i2⟩ := ih
    rw [Bool.and_eq_true, Bool.not_eq_true', List.contains_eq_mem, decide_eq_false_iff_not] at hc
    refine ⟨List.nodup_cons.mpr ⟨fun hmem => ?_, i1⟩, fun x hx => ?_⟩
    · obtain ⟨y, hy, hyp⟩ := List.mem_map.mp hmem
      exact (i2 y hy).2.2 (List.mem_cons.mpr (.inl hyp))
    · rcases List.mem_cons.mp hx with rfl | h
      · exact ⟨List.mem_cons_self, hc.1, hc.2⟩
      · obtain ⟨h1, h2, h3⟩ := i2 x h
        exact ⟨List.mem_cons_of_mem _ h1, h2, fun hs => h3 (List.mem_cons_of_mem _ hs)⟩
  | case3 seen n d t p hc ih =>
    exact ⟨ih.1, fun x hx => (ih.2 x hx).imp_left (List.mem_cons_of_mem _)⟩

theorem landGo_id (l : List (String × List UInt8)) (seen : List (List String)) (hc : ∀ x ∈ l, creatable x.1 = true)
    (hn : (l.map pathOf).Nodup) (hs : ∀ x ∈ l, pathOf x ∉ seen) : landGo seen l = l := by
  fun_induction landGo seen l with
  | case1 => rfl
  | case2 seen n d t p _ ih =>
    rw [List.map_cons, List.nodup_cons] at hn
    rw [ih (fun x hx => hc x (List.mem_cons_of_mem _ hx)) hn.2 fun x hx hmem => ?_]
    rcases List.mem_cons.mp hmem with h | h
    · exact hn.1 (List.mem_map.mpr ⟨x, hx, h⟩)
    · exact hs x (List.mem_cons_of_mem _ hx) h
  | case3 seen n d t p hcond _ =>
    -- the head can be created and is new: it is not skipped
    refine absurd ?_ hcond
    rw [hc (n, d) List.mem_cons_self, Bool.true_and, Bool.not_eq_true', List.contains_eq_mem, decide_eq_false_iff_not]
    exact hs (n, d) List.mem_cons_self

end Zipm
