/-! Model of archive extraction (src/utils/unzip.rs): `extract_archives` (member selection by glob pattern, the
    single-entry "data" special case) and `extract_to_dir` (zip branch: `enclosed_name`, files filter, rename map), plus the
    path confinement argument. The glob matcher and the archive reader are parameters: `g name` = the pattern matches,
    `enclosed` of a member = what the zip crate's `enclosed_name()` returned (compared with `enclosedName` below on every run). -/
namespace Zipm

inductive Kind where | file | dir | other
deriving Repr, DecidableEq

structure Member where
  name : String              -- raw member name as stored
  kind : Kind
  enclosed : Option String   -- `enclosed_name()`
  data : List UInt8
deriving Repr, DecidableEq

/-! ### path confinement -/

inductive Comp where | root | parent | cur | normal (s : String)
deriving Repr, DecidableEq

/-- components of a unix path string (as `Path::components`: empty parts and `.` vanish, a leading `/` is the root) -/
def comps (s : String) : List Comp :=
  let parts := s.splitOn "/"
  let body := parts.filterMap fun p => if p == "" || p == "." then none else if p == ".." then some Comp.parent else some (Comp.normal p)
  if s.startsWith "/" then Comp.root :: body else body

/-- the depth walk of `enclosed_name()` / `leads_outside`: `none` = the name leads outside of the directory it is joined to -/
def depthAfter : Nat → List Comp → Option Nat
  | d, [] => some d
  | _, .root :: _ => none
  | d, .parent :: t => if d = 0 then none else depthAfter (d - 1) t
  | d, .cur :: t => depthAfter d t
  | d, .normal _ :: t => depthAfter (d + 1) t

def staysInside (cs : List Comp) : Bool := (depthAfter 0 cs).isSome

/-- `enclosed_name()` of the zip crate on a member name (names with NUL are refused; not generated) -/
def enclosedName (s : String) : Option String := if staysInside (comps s) then some s else none

/-- lexical resolution of `base.join(cs)` (what the OS does when no symlink is involved): the directory stack -/
def resolve : List String → List Comp → List String
  | st, [] => st
  | _, .root :: t => resolve [] t
  | st, .parent :: t => resolve st.dropLast t
  | st, .cur :: t => resolve st t
  | st, .normal s :: t => resolve (st ++ [s]) t

/-! ### selection -/

/-- `extract_archives`: the listed entries that get into the files filter, with the rename map (`data` -> archive stem) -/
def matching (pat : String) (g : String → Bool) (stem : String) (listing : List String) : List String × Option (String × String) :=
  if listing == ["data"] then
    if pat == "data" then (["data"], none)
    else if stem == pat || g stem then (["data"], some ("data", stem))
    else ([], none)
  else (listing.filter fun e => (e == pat || g e) && !e.endsWith "/", none)

def renamed (rm : Option (String × String)) (n : String) : String :=
  match rm with
  | some (a, b) => if n == a then b else n
  | none => n

/-- `extract_to_dir` (zip branch) into a fresh directory: the files written, in archive order: (relative name, content) -/
def extractOne (filter : List String) (rm : Option (String × String)) (m : Member) : Option (String × List UInt8) :=
  match m.enclosed with
  | none => none
  | some e => if filter.contains e && m.kind == .file then some (renamed rm e, m.data) else none

def extract (filter : List String) (rm : Option (String × String)) (ms : List Member) : List (String × List UInt8) :=
  ms.filterMap (extractOne filter rm)

/-- the whole call: the reported files with their contents (empty when nothing matches) -/
def extractArchive (pat : String) (g : String → Bool) (stem : String) (listing : List String) (ms : List Member) : List (String × List UInt8) :=
  let (f, rm) := matching pat g stem listing
  if f.isEmpty then [] else extract f rm ms

/-! ### what lands in the directory -/

/-- can a file of that name be created below the directory? Not if the name ends in a separator, `.` or `..`
    (it denotes a directory then: `sub/..`, `b/.`) -/
def creatable (n : String) : Bool :=
  match (n.splitOn "/").getLast? with
  | some s => s != "" && s != "." && s != ".."
  | none => false

/-- the members are written one after the other; a member that cannot be created is skipped, and so is one whose name
    denotes a file an earlier member of this request has produced (`a.dlt`, `./a.dlt`): nothing is overwritten -/
def landGo : List (List String) → List (String × List UInt8) → List (String × List UInt8)
  | _, [] => []
  | seen, (n, d) :: t =>
    let p := resolve [] (comps n)
    if creatable n && !seen.contains p then (n, d) :: landGo (p :: seen) t else landGo seen t

def land (l : List (String × List UInt8)) : List (String × List UInt8) := landGo [] l

/-! ### a second request into the same directory -/

/-- the pre-pass of `extract_to_dir`: entries whose (renamed) target exists already inside the directory are reported as
    extracted and leave the files filter (names leading outside are never taken for existing - fix 9584f8d) -/
def preFilter (exists_ : String → Bool) (rm : Option (String × String)) (filter : List String) : List String × List String :=
  (filter.filterMap fun f => let n := renamed rm f; if exists_ n && staysInside (comps n) then some n else none,
   filter.filter fun f => let n := renamed rm f; !(exists_ n && staysInside (comps n)))

/-- `extract_archives` into a directory that is not empty: `existsIn n` says whether a file of name `n` is there already -/
def extractArchiveInto (existsIn : String → Bool) (pat : String) (g : String → Bool) (stem : String) (listing : List String)
    (ms : List Member) : List String × List (String × List UInt8) :=
  let (f, rm) := matching pat g stem listing
  if f.isEmpty then ([], []) else
  let (pre, f') := preFilter existsIn rm f
  (pre, extract f' rm ms)

namespace Spec
/-- C20: exactly the file members that match the pattern and whose names do not lead outside the directory -/
def selected (pat : String) (g : String → Bool) (m : Member) : Bool :=
  m.kind == .file && m.enclosed.isSome && (m.name == pat || g m.name) && !m.name.endsWith "/"
end Spec

end Zipm
