import Adlt.Net.Live
/-! C13, consumer loss on the abstract network. Every element of the pipeline - the source, each stage, the consumer - can
    be *gone*: the consumer may leave at any moment; a sender whose receiver is gone gets an error from its next send
    (also one that was waiting for room) and is gone itself. Nothing else changes. -/
namespace Net
variable {M : Type}

/-- is the first element downstream (a stage, or the consumer) gone -/
def downGone : List (Node M × Bool) → Bool → Bool
  | [], cg => cg
  | (_, g) :: _, _ => g

def proj (l : List (Node M × Bool)) : List (Node M) := l.map (·.1)

/-- `StepL caps up e s ug nodes got cg  s' ug' nodes' got' cg'`: `ug` = the upstream neighbour is gone, each node carries
    its own flag, `cg` = the consumer is gone -/
inductive StepL : List Nat → List M → Bool → Nat → Bool → List (Node M × Bool) → List M → Bool →
    Nat → Bool → List (Node M × Bool) → List M → Bool → Prop
  | push (c caps up e s nodes got cg) (h : s < up.length) (hd : downGone nodes cg = false)
      (hroom : s - takenLen (proj nodes) got < c) :
      StepL (c :: caps) up e s false nodes got cg (s + 1) false nodes got cg
  | pushFail (caps up e s nodes got cg) (h : s < up.length) (hd : downGone nodes cg = true) :
      StepL caps up e s false nodes got cg s true nodes got cg
  | consRecv (caps up e s ug got) (h : got.length < s) (hs : s ≤ up.length) :
      StepL caps up e s ug [] got false s ug [] (got ++ [up[got.length]'(Nat.lt_of_lt_of_le h hs)]) false
  | consLeave (caps up e s ug got) : StepL caps up e s ug [] got false s ug [] got true
  | headRecv (caps up e s ug) (n : Node M) (rest got cg) (h : n.consumed.length < s) (hs : s ≤ up.length)
      (hidle : n.sent = n.produced.length) :
      StepL caps up e s ug ((n, false) :: rest) got cg s ug
        (({ n with consumed := n.consumed ++ [up[n.consumed.length]'(Nat.lt_of_lt_of_le h hs)] }, false) :: rest) got cg
  | headEnd (caps up s ug) (n : Node M) (rest got cg) (hs : s = up.length) (hc : n.consumed.length = up.length)
      (hne : n.ended = false) (hidle : n.sent = n.produced.length) :
      StepL caps up true s ug ((n, false) :: rest) got cg s ug (({ n with ended := true }, false) :: rest) got cg
  | deeper (c caps up e s ug) (n : Node M) (g : Bool) (rest got cg s' g' rest' got' cg')
      (h : StepL caps n.produced n.ended n.sent g rest got cg s' g' rest' got' cg') :
      StepL (c :: caps) up e s ug ((n, g) :: rest) got cg s ug (({ n with sent := s' }, g') :: rest') got' cg'

/-- an element's share in `alive`: gone ↦ 0, there ↦ 1 -/
def b01 (x : Bool) : Nat := if x then 0 else 1

/-- how many elements (source, stages, consumer) are not gone -/
def alive : Bool → List (Node M × Bool) → Bool → Nat
  | ug, [], cg => b01 ug + b01 cg
  | ug, (_, g) :: rest, cg => b01 ug + alive g rest cg

/-- splits off the upstream element's share, so that `stepL_sim` can compare `alive` before and after without cases on the list -/
theorem alive_ug (ug : Bool) (nodes : List (Node M × Bool)) (cg : Bool) :
    alive ug nodes cg = b01 ug + alive true nodes cg := by
  cases nodes with
  | nil => show b01 ug + b01 cg = b01 ug + (0 + b01 cg); rw [Nat.zero_add]
  | cons p rest => obtain ⟨n, g⟩ := p; show b01 ug + _ = b01 ug + (0 + _); rw [Nat.zero_add]

/-- a lossy step is a step of the plain network with nobody leaving, or exactly one element leaves and nothing else changes -/
theorem stepL_sim {caps : List Nat} {up : List M} {e : Bool} {s : Nat} {ug : Bool} {nodes : List (Node M × Bool)}
    {got : List M} {cg : Bool} {s' : Nat} {ug' : Bool} {nodes' : List (Node M × Bool)} {got' : List M} {cg' : Bool}
    (h : StepL caps up e s ug nodes got cg s' ug' nodes' got' cg') :
    (Step up e s (proj nodes) got s' (proj nodes') got' ∧ alive ug' nodes' cg' = alive ug nodes cg) ∨
    (s' = s ∧ proj nodes' = proj nodes ∧ got' = got ∧ alive ug' nodes' cg' + 1 = alive ug nodes cg) := by
  induction h with
  | push c caps up e s nodes got cg h hd hroom => exact .inl ⟨.push up e s _ got h, rfl⟩
  | pushFail caps up e s nodes got cg h hd =>
    refine .inr ⟨rfl, rfl, rfl, ?_⟩
    rw [alive_ug false]; exact Nat.add_comm _ _
  | consRecv caps up e s ug got h hs => exact .inl ⟨.consRecv up e s got h hs, rfl⟩
  | consLeave caps up e s ug got => exact .inr ⟨rfl, rfl, rfl, rfl⟩
  | headRecv caps up e s ug n rest got cg h hs hidle => exact .inl ⟨.headRecv up e s n (proj rest) got h hs hidle, rfl⟩
  | headEnd caps up s ug n rest got cg hs hc hne hidle => exact .inl ⟨.headEnd up s n (proj rest) got hs hc hne hidle, rfl⟩
  | deeper c caps up e s ug n g rest got cg s' g' rest' got' cg' _ ih =>
    rcases ih with ⟨hst, ha⟩ | ⟨h1, h2, h3, ha⟩
    · exact .inl ⟨.deeper up e s n (proj rest) got s' (proj rest') got' hst, congrArg (b01 ug + ·) ha⟩
    · refine .inr ⟨rfl, ?_, h3, congrArg (b01 ug + ·) ha⟩
      subst h1
      show ({ n with sent := n.sent } : Node M) :: proj rest' = n :: proj rest
      rw [h2]

/-- a sender is only ever gone when its receiver is: gone stages form a suffix of the pipeline -/
def InvL : Bool → List (Node M × Bool) → Prop
  | _, [] => True
  | ug, (_, g) :: rest => (ug = true → g = true) ∧ InvL g rest

theorem stepL_inv {caps : List Nat} {up : List M} {e : Bool} {s : Nat} {ug : Bool} {nodes : List (Node M × Bool)}
    {got : List M} {cg : Bool} {s' : Nat} {ug' : Bool} {nodes' : List (Node M × Bool)} {got' : List M} {cg' : Bool}
    (h : StepL caps up e s ug nodes got cg s' ug' nodes' got' cg') :
    (ug = true → ug' = true) ∧ (InvL ug nodes → InvL ug' nodes') := by
  induction h with
  | pushFail caps up e s nodes got cg h hd =>
    refine ⟨fun _ => rfl, fun hi => ?_⟩
    cases nodes with
    | nil => trivial
    | cons p rest => exact ⟨fun _ => hd, hi.2⟩
  | deeper c caps up e s ug n g rest got cg s' g' rest' got' cg' hstep ih =>
    exact ⟨id, fun hi => ⟨fun hu => ih.1 (hi.1 hu), ih.2 hi.2⟩⟩
  | consRecv | consLeave => exact ⟨id, fun _ => trivial⟩
  | push | headRecv | headEnd => exact ⟨id, id⟩

theorem invL_all_gone (nodes : List (Node M × Bool)) (h : InvL true nodes) : ∀ x ∈ nodes, x.2 = true := by
  induction nodes with
  | nil => intro x hx; cases hx
  | cons p rest ih =>
    obtain ⟨n, g⟩ := p
    have hg : g = true := h.1 rfl
    subst hg
    exact List.forall_mem_cons.mpr ⟨rfl, ih h.2⟩

/-- every stage thread has terminated: gone, or ended with everything sent -/
def AllDone (nodes : List (Node M × Bool)) : Prop :=
  ∀ x ∈ nodes, x.2 = true ∨ (x.1.ended = true ∧ x.1.sent = x.1.produced.length)

theorem send_to_gone (caps : List Nat) (up : List M) (e : Bool) (s : Nat) (ug : Bool) (nodes : List (Node M × Bool))
    (got : List M) (cg : Bool) (hs : s ≤ up.length) (hd : downGone nodes cg = true) :
    (∃ s' ug' nodes' got' cg', StepL caps up e s ug nodes got cg s' ug' nodes' got' cg') ∨ (ug = true ∨ s = up.length) := by
  cases ug with
  | true => exact .inr (.inl rfl)
  | false =>
    by_cases hp : s < up.length
    · exact .inl ⟨_, _, _, _, _, .pushFail caps up e s nodes got cg hp hd⟩
    · exact .inr (.inr (Nat.le_antisymm hs (Nat.le_of_not_lt hp)))

/-- never blocked: a consumer that is there can leave (the action sits below all nodes); once it has left, the part below the
    head is asked first, as in `progress` (an enabled action there is one here), and a gone head needs no more than `send_to_gone`. -/
theorem progressL (nodes : List (Node M × Bool)) : ∀ (caps : List Nat) (up : List M) (e : Bool) (s : Nat) (ug : Bool)
    (got : List M) (cg : Bool),
    caps.length = nodes.length + 1 → (∀ c ∈ caps, 1 ≤ c) → Good up e s (proj nodes) got → InvL ug nodes →
    (∃ s' ug' nodes' got' cg', StepL caps up e s ug nodes got cg s' ug' nodes' got' cg') ∨
      (cg = true ∧ (ug = true ∨ s = up.length) ∧ (e = true → AllDone nodes)) := by
  induction nodes with
  | nil =>
    intro caps up e s ug got cg _ _ hg _
    cases cg with
    | false => exact .inl ⟨_, _, _, _, _, .consLeave caps up e s ug got⟩
    | true =>
      rcases send_to_gone caps up e s ug [] got true hg.1 rfl with h | h
      · exact .inl h
      · exact .inr ⟨rfl, h, fun _ => List.forall_mem_nil _⟩
  | cons p rest ih =>
    obtain ⟨n, g⟩ := p
    intro caps up e s ug got cg hl hc hg hi
    have hg' : Good up e s (n :: proj rest) got := hg
    obtain ⟨h1, h2, _, _, h5⟩ := hg'
    cases caps with
    | nil => cases hl
    | cons c caps' =>
      rcases ih caps' n.produced n.ended n.sent g got cg (Nat.succ.inj hl) (fun x hx => hc x (List.mem_cons_of_mem _ hx))
        h5 hi.2 with ⟨s', g', rest', got', cg', hstep⟩ | ⟨rfl, hsent, hdone⟩
      · exact .inl ⟨_, _, _, _, _, .deeper c caps' up e s ug n g rest got cg s' g' rest' got' cg' hstep⟩
      · cases g with
        | true =>
          rcases send_to_gone (c :: caps') up e s ug ((n, true) :: rest) got true h1 rfl with h | h
          · exact .inl h
          · exact .inr ⟨rfl, h, fun _ => List.forall_mem_cons.mpr ⟨.inl rfl, fun x hx => .inl (invL_all_gone rest hi.2 x hx)⟩⟩
        | false =>
          have hug : ug = false := Bool.eq_false_iff.2 fun h => nomatch hi.1 h
          subst hug
          have hidle : n.sent = n.produced.length := hsent.resolve_left (fun h => nomatch h)
          rcases idle_cases up e s n h1 h2 with hr | ⟨hcs, hp⟩ | ⟨hsu, hcu, rfl, hne⟩ | ⟨hsu, hcs, hen⟩
          · exact .inl ⟨_, _, _, _, _, .headRecv _ up e s false n rest got true hr h1 hidle⟩
          · exact .inl ⟨_, _, _, _, _, .push c caps' up e s ((n, false) :: rest) got true hp rfl (room hcs (hc c List.mem_cons_self))⟩
          · exact .inl ⟨_, _, _, _, _, .headEnd _ up s false n rest got true hsu hcu hne hidle⟩
          · exact .inr ⟨rfl, .inr hsu, fun he => List.forall_mem_cons.mpr ⟨.inr ⟨hen he, hidle⟩, hdone (hen he)⟩⟩

inductive StepsL : Nat → List Nat → List M → Bool → Nat → Bool → List (Node M × Bool) → List M → Bool →
    Nat → Bool → List (Node M × Bool) → List M → Bool → Prop
  | refl (caps up e s ug nodes got cg) : StepsL 0 caps up e s ug nodes got cg s ug nodes got cg
  | cons {k caps up e s ug nodes got cg s1 ug1 nodes1 got1 cg1 s2 ug2 nodes2 got2 cg2}
      (h1 : StepL caps up e s ug nodes got cg s1 ug1 nodes1 got1 cg1)
      (h2 : StepsL k caps up e s1 ug1 nodes1 got1 cg1 s2 ug2 nodes2 got2 cg2) :
      StepsL (k + 1) caps up e s ug nodes got cg s2 ug2 nodes2 got2 cg2

/-- a lossy schedule of length `k` is a plain schedule of the nodes, of some length `j`, with `k - j` departures in between -/
theorem stepsL_sim {k : Nat} {caps : List Nat} {up : List M} {e : Bool} {s : Nat} {ug : Bool} {nodes : List (Node M × Bool)}
    {got : List M} {cg : Bool} {s' : Nat} {ug' : Bool} {nodes' : List (Node M × Bool)} {got' : List M} {cg' : Bool}
    (hs : StepsL k caps up e s ug nodes got cg s' ug' nodes' got' cg') :
    ∃ j, StepsN j up e s (proj nodes) got s' (proj nodes') got' ∧ k + alive ug' nodes' cg' = j + alive ug nodes cg := by
  induction hs with
  | refl => exact ⟨0, .refl _ _ _ _ _, rfl⟩
  | cons h1 _ ih =>
    obtain ⟨j, hn, hk⟩ := ih
    rcases stepL_sim h1 with ⟨hst, ha⟩ | ⟨e1, e2, e3, ha⟩
    · -- `hk`, a step more on both sides
      exact ⟨j + 1, .cons hst hn, by rw [← ha, Nat.add_right_comm, hk, Nat.add_right_comm]⟩
    · -- `hk`, one more and one departed (`ha`)
      rw [e1, e2, e3] at hn; exact ⟨j, hn, by rw [← ha, Nat.add_right_comm, hk, Nat.add_assoc]⟩

theorem stepsL_inv {k : Nat} {caps : List Nat} {up : List M} {e : Bool} {s : Nat} {ug : Bool} {nodes : List (Node M × Bool)}
    {got : List M} {cg : Bool} {s' : Nat} {ug' : Bool} {nodes' : List (Node M × Bool)} {got' : List M} {cg' : Bool}
    (hs : StepsL k caps up e s ug nodes got cg s' ug' nodes' got' cg') (hi : InvL ug nodes) : InvL ug' nodes' := by
  induction hs with
  | refl => exact hi
  | cons h1 _ ih => exact ih ((stepL_inv h1).2 hi)

def initL (stages : List (Stage M)) : List (Node M × Bool) := (initNodes stages).map fun n => (n, false)

theorem proj_initL (stages : List (Stage M)) : proj (initL stages) = initNodes stages := by
  simp [proj, initL, List.map_map, Function.comp_def]

theorem alive_initL (stages : List (Stage M)) : alive false (initL stages) false = stages.length + 2 := by
  induction stages with
  | nil => rfl
  | cons a t ih => show 1 + alive false (initL t) false = t.length + 1 + 2; rw [ih, Nat.add_comm, Nat.add_right_comm]

theorem initL_inv (stages : List (Stage M)) : InvL false (initL stages) := by
  induction stages with
  | nil => trivial
  | cons a t ih => exact ⟨fun h => Bool.noConfusion h, ih⟩

/-- C13, consumer loss: a reachable state has an enabled action, or every stage thread has terminated and the source has
    stopped or sent everything -/
theorem C13_loss_never_blocks (input : List M) (stages : List (Stage M)) (caps : List Nat)
    (hl : caps.length = stages.length + 1) (hc : ∀ c ∈ caps, 1 ≤ c)
    (k s' : Nat) (ug' : Bool) (nodes' : List (Node M × Bool)) (got' : List M) (cg' : Bool)
    (hs : StepsL k caps input true 0 false (initL stages) [] false s' ug' nodes' got' cg') :
    (∃ s'' ug'' nodes'' got'' cg'', StepL caps input true s' ug' nodes' got' cg' s'' ug'' nodes'' got'' cg'') ∨
    (AllDone nodes' ∧ (ug' = true ∨ s' = input.length)) := by
  obtain ⟨j, hn, _⟩ := stepsL_sim hs
  rw [proj_initL] at hn
  obtain ⟨hg, hst⟩ := reach_init hn.toSteps
  rcases progressL nodes' caps input true s' ug' got' cg' (by rw [hl, ← hst, List.length_map, proj, List.length_map]) hc hg
    (stepsL_inv hs (initL_inv stages)) with hstep | ⟨_, h1, h2⟩
  · exact .inl hstep
  · exact .inr ⟨h2 rfl, h1⟩

/-- C13, consumer loss: a schedule is no longer than the initial work plus the number of elements that can leave -/
theorem C13_loss_terminates (input : List M) (stages : List (Stage M)) (caps : List Nat)
    (k s' : Nat) (ug' : Bool) (nodes' : List (Node M × Bool)) (got' : List M) (cg' : Bool)
    (hs : StepsL k caps input true 0 false (initL stages) [] false s' ug' nodes' got' cg') :
    k ≤ work input 0 (initNodes stages) [] + (stages.length + 2) := by
  obtain ⟨j, hn, hk⟩ := stepsL_sim hs
  rw [proj_initL] at hn
  have := C13_terminates input stages j s' (proj nodes') got' hn
  rw [alive_initL] at hk
  exact Nat.le_trans (Nat.le_add_right k _) (Nat.le_trans (Nat.le_of_eq hk) (Nat.add_le_add_right this _))

end Net
