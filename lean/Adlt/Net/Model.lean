/-! Bounded-channel pipeline (C13): deterministic stream transducers connected by FIFO channels; any interleaving of
    sends, receives and end-of-input notifications. The invariant `Good` of every reachable state, and what holds for every
    channel capacity: safety (the consumer holds a prefix of the sequential result, `C13_safety`) and completeness (a run that
    has come to rest with every stage finished holds exactly that result, `Terminal`, `C13_complete`). -/
namespace Net

variable {M : Type}

structure Stage (M : Type) where
  inc : List M → M → List M      -- outputs caused by one more input after history
  flush : List M → List M        -- outputs at end of input

/-- outputs produced while consuming `xs` after history `h` -/
def Stage.incAll (st : Stage M) : List M → List M → List M
  | _, [] => []
  | h, x :: xs => st.inc h x ++ st.incAll (h ++ [x]) xs

def Stage.produced (st : Stage M) (consumed : List M) (ended : Bool) : List M :=
  st.incAll [] consumed ++ (if ended then st.flush consumed else [])

def Stage.full (st : Stage M) (xs : List M) : List M := st.produced xs true

def pipe (stages : List (Stage M)) (xs : List M) : List M := stages.foldl (fun acc st => st.full acc) xs

theorem incAll_append (st : Stage M) (h xs ys : List M) :
    st.incAll h (xs ++ ys) = st.incAll h xs ++ st.incAll (h ++ xs) ys := by
  induction xs generalizing h with
  | nil => simp [Stage.incAll]
  | cons x t ih => simp [Stage.incAll, ih, List.append_assoc]

def Pre (a b : List M) : Prop := ∃ t, b = a ++ t

theorem Pre.refl (a : List M) : Pre a a := ⟨[], by simp⟩
theorem Pre.trans {a b c : List M} (h1 : Pre a b) (h2 : Pre b c) : Pre a c := by
  obtain ⟨t1, rfl⟩ := h1; obtain ⟨t2, rfl⟩ := h2; exact ⟨t1 ++ t2, by simp⟩
theorem Pre.take (a : List M) (k : Nat) : Pre (a.take k) a := ⟨a.drop k, by simp⟩

/-- `up` is what a producer whose whole output will be `UP` has produced so far: a prefix, and all of it once it has ended -/
def Upto (UP up : List M) (e : Bool) : Prop := Pre up UP ∧ (e = true → up = UP)

theorem Upto.all {up : List M} {e : Bool} : Upto up up e := ⟨Pre.refl up, fun _ => rfl⟩

/-- what a stage that has not ended adds to its output when it consumes `t` more and then ends or not -/
theorem produced_append (st : Stage M) (c t : List M) (e' : Bool) :
    st.produced (c ++ t) e' = st.produced c false ++ (st.incAll c t ++ if e' then st.flush (c ++ t) else []) := by
  simp [Stage.produced, incAll_append]

/-- so a stage that has not ended only adds to its output, whether it consumes more or ends -/
theorem produced_mono (st : Stage M) {c c' : List M} (e' : Bool) (h : Pre c c') :
    Pre (st.produced c false) (st.produced c' e') := by
  obtain ⟨t, rfl⟩ := h
  exact ⟨_, produced_append st c t e'⟩

/-- a stage that has consumed `c` of `UP` has produced that much of its final output -/
theorem Upto.stage (st : Stage M) {UP c : List M} {e : Bool} (h : Upto UP c e) : Upto (st.full UP) (st.produced c e) e := by
  cases e with
  | true => rw [h.2 rfl]; exact Upto.all
  | false => exact ⟨produced_mono st true h.1, fun h => nomatch h⟩

structure Node (M : Type) where
  st : Stage M
  consumed : List M := []
  ended : Bool := false
  sent : Nat := 0            -- how many of its produced items it has pushed downstream

def Node.produced (n : Node M) : List M := n.st.produced n.consumed n.ended

/-- `Good up upEnded upSent nodes got`: every node (and finally the consumer) has consumed exactly a prefix of
    what its upstream neighbour has *sent*, which is a prefix of what that neighbour produced -/
def Good : (up : List M) → (upEnded : Bool) → (upSent : Nat) → List (Node M) → (got : List M) → Prop
  | up, _, upSent, [], got => upSent ≤ up.length ∧ got.length ≤ upSent ∧ got = up.take got.length
  | up, upEnded, upSent, n :: rest, got =>
    upSent ≤ up.length ∧ n.consumed.length ≤ upSent ∧ n.consumed = up.take n.consumed.length
    ∧ (n.ended = true → upEnded = true ∧ n.consumed = up)
    ∧ Good n.produced n.ended n.sent rest got

theorem pipe_cons (st : Stage M) (l : List (Stage M)) (xs : List M) : pipe (st :: l) xs = pipe l (st.full xs) := rfl

/-- one level down: the head node's output so far stands to its final output `n.st.full UP` as `up` to `UP` -/
theorem good_down {up UP : List M} {e : Bool} {s : Nat} {n : Node M} {rest : List (Node M)} {got : List M}
    (hu : Upto UP up e) (hg : Good up e s (n :: rest) got) :
    Upto (n.st.full UP) n.produced n.ended ∧ Good n.produced n.ended n.sent rest got := by
  obtain ⟨_, _, h3, h4, h5⟩ := hg
  refine ⟨Upto.stage n.st ⟨?_, fun hn => ?_⟩, h5⟩
  · rw [h3]; exact (Pre.take up _).trans hu.1
  · rw [(h4 hn).2]; exact hu.2 (h4 hn).1

theorem good_safe (nodes : List (Node M)) (up UP : List M) (upEnded : Bool) (upSent : Nat) (got : List M)
    (hu : Upto UP up upEnded) (hg : Good up upEnded upSent nodes got) :
    Pre got (pipe (nodes.map (·.st)) UP) := by
  induction nodes generalizing up UP upEnded upSent with
  | nil => rw [hg.2.2]; exact (Pre.take up _).trans hu.1
  | cons n rest ih =>
    obtain ⟨hp, hr⟩ := good_down hu hg
    rw [List.map_cons, pipe_cons]
    exact ih n.produced (n.st.full UP) n.ended n.sent hp hr

/-- `Step up upEnded upSent nodes got upSent' nodes' got'` — one atomic action somewhere in the pipeline
    fed by a neighbour that has produced `up` (and `upEnded`) and pushed `upSent` items so far.
    Channel capacities only restrict *when* `push` is enabled, so they do not appear in the safety proof.
    A node receives or ends only when idle (`hidle`: it has pushed all it produced), as the stage threads do (blocking `send`
    inside `for msg in inflow`, e.g. `buffer_sort_messages`, src/utils/mod.rs); so progress is looked for deepest first. -/
inductive Step : List M → Bool → Nat → List (Node M) → List M → Nat → List (Node M) → List M → Prop
  | push (up e s nodes got) (h : s < up.length) : Step up e s nodes got (s + 1) nodes got
  | consRecv (up e s got) (h : got.length < s) (hs : s ≤ up.length) :
      Step up e s [] got s [] (got ++ [up[got.length]'(Nat.lt_of_lt_of_le h hs)])
  | headRecv (up e s) (n : Node M) (rest got) (h : n.consumed.length < s) (hs : s ≤ up.length)
      (hidle : n.sent = n.produced.length) :
      Step up e s (n :: rest) got s
        ({ n with consumed := n.consumed ++ [up[n.consumed.length]'(Nat.lt_of_lt_of_le h hs)] } :: rest) got
  | headEnd (up s) (n : Node M) (rest got) (hs : s = up.length) (hc : n.consumed.length = up.length)
      (hne : n.ended = false) (hidle : n.sent = n.produced.length) :
      Step up true s (n :: rest) got s ({ n with ended := true } :: rest) got
  | deeper (up e s) (n : Node M) (rest got s' rest' got')
      (h : Step n.produced n.ended n.sent rest got s' rest' got') :
      Step up e s (n :: rest) got s ({ n with sent := s' } :: rest') got'

/-- the upstream neighbour produced more: what was consumed stays a prefix. Only from `upEnded = false`: a node that has
    ended claims to have consumed all of `up`, which growth would falsify - and an ended upstream produces no more. -/
theorem good_extend {up up' : List M} {e' : Bool} {s : Nat} {nodes : List (Node M)} {got : List M}
    (hp : Pre up up') (hg : Good up false s nodes got) : Good up' e' s nodes got := by
  obtain ⟨t, rfl⟩ := hp
  have hlen : s ≤ up.length → s ≤ (up ++ t).length := fun h => by
    rw [List.length_append]; exact Nat.le_trans h (Nat.le_add_right _ _)
  cases nodes with
  | nil =>
    obtain ⟨h1, h2, h3⟩ := hg
    refine ⟨hlen h1, h2, ?_⟩
    rw [List.take_append_of_le_length (Nat.le_trans h2 h1)]; exact h3
  | cons n rest =>
    obtain ⟨h1, h2, h3, h4, h5⟩ := hg
    refine ⟨hlen h1, h2, ?_, (fun he => nomatch (h4 he).1), h5⟩
    rw [List.take_append_of_le_length (Nat.le_trans h2 h1)]; exact h3

theorem step_good {up : List M} {e : Bool} {s : Nat} {nodes : List (Node M)} {got : List M}
    {s' : Nat} {nodes' : List (Node M)} {got' : List M}
    (hs : Step up e s nodes got s' nodes' got') (hg : Good up e s nodes got) : Good up e s' nodes' got' := by
  induction hs with
  | push up e s nodes got h =>
    cases nodes with
    | nil => obtain ⟨h1, h2, h3⟩ := hg; exact ⟨h, Nat.le_succ_of_le h2, h3⟩
    | cons n rest => obtain ⟨h1, h2, h3, h4, h5⟩ := hg; exact ⟨h, Nat.le_succ_of_le h2, h3, h4, h5⟩
  | consRecv up e s got h hs =>
    obtain ⟨h1, h2, h3⟩ := hg
    refine ⟨h1, by rw [List.length_append]; exact h, ?_⟩
    have hk : got.length < up.length := Nat.lt_of_lt_of_le h hs
    simp only [List.length_append, List.length_singleton]
    rw [List.take_succ_eq_append_getElem hk, ← h3]
  | headRecv up e s n rest got h hs hidle =>
    obtain ⟨h1, h2, h3, h4, h5⟩ := hg
    have hk : n.consumed.length < up.length := Nat.lt_of_lt_of_le h hs
    -- a node that has ended consumed everything, so one that still receives has not ended
    have hne : n.ended = false := Bool.eq_false_iff.2 fun he => Nat.ne_of_lt hk (congrArg List.length (h4 he).2)
    refine ⟨h1, by rw [List.length_append]; exact h, ?_, ?_, ?_⟩
    · simp only [List.length_append, List.length_singleton]
      rw [List.take_succ_eq_append_getElem hk, ← h3]
    · exact fun he => nomatch hne.symm.trans he
    · rw [Node.produced, hne] at h5
      exact good_extend (produced_mono n.st _ ⟨[_], rfl⟩) h5
  | headEnd up s n rest got hs hc hne hidle =>
    obtain ⟨h1, h2, h3, h4, h5⟩ := hg
    refine ⟨h1, h2, h3, ?_, ?_⟩
    · intro _
      refine ⟨rfl, ?_⟩
      show n.consumed = up
      rw [h3, hc, List.take_length]
    · rw [Node.produced, hne] at h5
      exact good_extend (produced_mono n.st true (Pre.refl _)) h5
  | deeper up e s n rest got s' rest' got' h ih =>
    obtain ⟨h1, h2, h3, h4, h5⟩ := hg
    exact ⟨h1, h2, h3, h4, ih h5⟩

/-- reflexive-transitive closure: any schedule -/
inductive Steps : List M → Bool → Nat → List (Node M) → List M → Nat → List (Node M) → List M → Prop
  | refl (up e s nodes got) : Steps up e s nodes got s nodes got
  | cons {up e s nodes got s1 nodes1 got1 s2 nodes2 got2}
      (h1 : Step up e s nodes got s1 nodes1 got1) (h2 : Steps up e s1 nodes1 got1 s2 nodes2 got2) :
      Steps up e s nodes got s2 nodes2 got2

theorem step_stages {up : List M} {e : Bool} {s : Nat} {nodes : List (Node M)} {got : List M}
    {s' : Nat} {nodes' : List (Node M)} {got' : List M}
    (h : Step up e s nodes got s' nodes' got') : nodes'.map (·.st) = nodes.map (·.st) := by
  induction h with
  | push | consRecv | headRecv | headEnd => rfl
  | deeper up e s n rest got s' rest' got' h ih => rw [List.map_cons, List.map_cons, ih]

theorem steps_keep {up : List M} {e : Bool} {s : Nat} {nodes : List (Node M)} {got : List M}
    {s' : Nat} {nodes' : List (Node M)} {got' : List M}
    (hs : Steps up e s nodes got s' nodes' got') (hg : Good up e s nodes got) :
    Good up e s' nodes' got' ∧ nodes'.map (·.st) = nodes.map (·.st) := by
  induction hs with
  | refl => exact ⟨hg, rfl⟩
  | cons h1 _ ih => rw [← step_stages h1]; exact ih (step_good h1 hg)

def initNodes (stages : List (Stage M)) : List (Node M) := stages.map fun st => { st := st }

theorem node_init_produced (st : Stage M) : ({ st := st } : Node M).produced = [] := by
  simp [Node.produced, Stage.produced, Stage.incAll]

theorem init_good (input : List M) (e : Bool) (stages : List (Stage M)) : Good input e 0 (initNodes stages) [] := by
  induction stages generalizing input e with
  | nil => exact ⟨Nat.zero_le _, Nat.le_refl _, rfl⟩
  | cons st rest ih =>
    have hrest : Good ({ st := st } : Node M).produced false 0 (initNodes rest) [] := by
      rw [node_init_produced]; exact ih [] false
    exact ⟨Nat.zero_le _, Nat.le_refl _, rfl, (fun he => Bool.noConfusion he), hrest⟩

theorem initNodes_stages (stages : List (Stage M)) : (initNodes stages).map (·.st) = stages := by
  simp [initNodes, List.map_map, Function.comp_def]

theorem reach_init {input : List M} {stages : List (Stage M)} {s' : Nat} {nodes' : List (Node M)} {got' : List M}
    (hs : Steps input true 0 (initNodes stages) [] s' nodes' got') :
    Good input true s' nodes' got' ∧ nodes'.map (·.st) = stages := by
  rw [← initNodes_stages stages]; exact steps_keep hs (init_good input true stages)

/-- C13 safety: in every reachable state the consumer holds a prefix of the sequential result -/
theorem C13_safety (input : List M) (stages : List (Stage M)) (s' : Nat) (nodes' : List (Node M)) (got' : List M)
    (hs : Steps input true 0 (initNodes stages) [] s' nodes' got') :
    Pre got' (pipe stages input) := by
  obtain ⟨hg, hst⟩ := reach_init hs
  rw [← hst]; exact good_safe nodes' input input true s' got' Upto.all hg

/-- everything that was produced upstream has been sent, every node has ended and sent everything, and the
    consumer has taken everything that was sent to it -/
def Terminal : (upLen : Nat) → (upSent : Nat) → List (Node M) → (got : List M) → Prop
  | upLen, upSent, [], got => upSent = upLen ∧ got.length = upSent
  | upLen, upSent, n :: rest, got =>
    upSent = upLen ∧ n.ended = true ∧ Terminal n.produced.length n.sent rest got

theorem good_complete (nodes : List (Node M)) (up : List M) (upSent : Nat) (got : List M)
    (hg : Good up true upSent nodes got) (ht : Terminal up.length upSent nodes got) :
    got = pipe (nodes.map (·.st)) up := by
  induction nodes generalizing up upSent with
  | nil => rw [hg.2.2, ht.2, ht.1]; exact List.take_length
  | cons n rest ih =>
    obtain ⟨_, te, tr⟩ := ht
    obtain ⟨hp, hr⟩ := good_down Upto.all hg
    rw [te] at hp hr
    rw [List.map_cons, pipe_cons, ← hp.2 rfl]
    exact ih n.produced n.sent hr tr

/-- C13 completeness: a run that has come to rest (`Terminal`) holds exactly the sequential result -/
theorem C13_complete (input : List M) (stages : List (Stage M)) (s' : Nat) (nodes' : List (Node M)) (got' : List M)
    (hs : Steps input true 0 (initNodes stages) [] s' nodes' got')
    (ht : Terminal input.length s' nodes' got') :
    got' = pipe stages input := by
  obtain ⟨hg, hst⟩ := reach_init hs
  rw [← hst]; exact good_complete nodes' input s' got' hg ht

end Net
