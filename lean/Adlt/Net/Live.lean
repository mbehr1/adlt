import Adlt.Net.Model
/-! C13, the two halves that need capacities or a measure: with capacities ≥ 1 a bounded pipeline never deadlocks (some
    action is enabled *under the capacity restriction*, or the run is complete), and every schedule is finite (`work`). -/
namespace Net
variable {M : Type}

/-- length of what the first element downstream (node or consumer) has taken from the channel in front of it -/
def takenLen : List (Node M) → List M → Nat
  | [], got => got.length
  | n :: _, _ => n.consumed.length

/-- a step that is enabled when every channel has the capacity listed in `caps` (channel i feeds node i; the last one
    feeds the consumer): a push additionally needs room in its channel -/
inductive StepC : List Nat → List M → Bool → Nat → List (Node M) → List M → Nat → List (Node M) → List M → Prop
  | push (c caps up e s nodes got) (h : s < up.length) (hroom : s - takenLen nodes got < c) :
      StepC (c :: caps) up e s nodes got (s + 1) nodes got
  | consRecv (caps up e s got) (h : got.length < s) (hs : s ≤ up.length) :
      StepC caps up e s [] got s [] (got ++ [up[got.length]'(Nat.lt_of_lt_of_le h hs)])
  | headRecv (caps up e s) (n : Node M) (rest got) (h : n.consumed.length < s) (hs : s ≤ up.length)
      (hidle : n.sent = n.produced.length) :
      StepC caps up e s (n :: rest) got s
        ({ n with consumed := n.consumed ++ [up[n.consumed.length]'(Nat.lt_of_lt_of_le h hs)] } :: rest) got
  | headEnd (caps up s) (n : Node M) (rest got) (hs : s = up.length) (hc : n.consumed.length = up.length)
      (hne : n.ended = false) (hidle : n.sent = n.produced.length) :
      StepC caps up true s (n :: rest) got s ({ n with ended := true } :: rest) got
  | deeper (c caps up e s) (n : Node M) (rest got s' rest' got')
      (h : StepC caps n.produced n.ended n.sent rest got s' rest' got') :
      StepC (c :: caps) up e s (n :: rest) got s ({ n with sent := s' } :: rest') got'

theorem StepC.toStep {caps : List Nat} {up : List M} {e : Bool} {s : Nat} {nodes : List (Node M)} {got : List M}
    {s' : Nat} {nodes' : List (Node M)} {got' : List M}
    (h : StepC caps up e s nodes got s' nodes' got') : Step up e s nodes got s' nodes' got' := by
  induction h with
  | push c caps up e s nodes got h _ => exact .push up e s nodes got h
  | consRecv caps up e s got h hs => exact .consRecv up e s got h hs
  | headRecv caps up e s n rest got h hs hidle => exact .headRecv up e s n rest got h hs hidle
  | headEnd caps up s n rest got hs hc hne hidle => exact .headEnd up s n rest got hs hc hne hidle
  | deeper c caps up e s n rest got s' rest' got' _ ih => exact .deeper up e s n rest got s' rest' got' ih

/-- nothing left to do *given what the upstream neighbour has produced so far*: everything produced upstream was sent
    and taken, every node is idle, and a node whose upstream has ended has ended too -/
def Quiet : (upLen : Nat) → (upEnded : Bool) → (upSent : Nat) → List (Node M) → (got : List M) → Prop
  | upLen, _, upSent, [], got => upSent = upLen ∧ got.length = upSent
  | upLen, e, upSent, n :: rest, got =>
    upSent = upLen ∧ n.consumed.length = upSent ∧ (e = true → n.ended = true) ∧
    Quiet n.produced.length n.ended n.sent rest got

theorem quiet_sent {upLen : Nat} {e : Bool} {s : Nat} {nodes : List (Node M)} {got : List M}
    (h : Quiet upLen e s nodes got) : s = upLen := by
  cases nodes <;> exact h.1

theorem quiet_terminal (nodes : List (Node M)) (upLen : Nat) (s : Nat) (got : List M)
    (h : Quiet upLen true s nodes got) : Terminal upLen s nodes got := by
  induction nodes generalizing upLen s with
  | nil => exact h
  | cons n rest ih =>
    obtain ⟨h1, _, h3, h4⟩ := h
    have he := h3 rfl
    rw [he] at h4
    exact ⟨h1, he, ih _ _ h4⟩

/-- a channel whose reader has taken all that was sent has room, whatever its capacity ≥ 1 -/
theorem room {s t c : Nat} (ht : t = s) (hc : 1 ≤ c) : s - t < c := by rw [ht, Nat.sub_self]; exact hc

/-- a node behind a channel: it can take an item | the upstream can send | it can end | nothing is left at this level -/
theorem idle_cases (up : List M) (e : Bool) (s : Nat) (n : Node M) (h1 : s ≤ up.length) (h2 : n.consumed.length ≤ s) :
    n.consumed.length < s ∨ (n.consumed.length = s ∧ s < up.length) ∨
    (s = up.length ∧ n.consumed.length = up.length ∧ e = true ∧ n.ended = false) ∨
    (s = up.length ∧ n.consumed.length = s ∧ (e = true → n.ended = true)) := by
  rcases Nat.lt_or_ge n.consumed.length s with hr | hr
  · exact .inl hr
  · have hcs : n.consumed.length = s := Nat.le_antisymm h2 hr
    rcases Nat.lt_or_ge s up.length with hp | hp
    · exact .inr (.inl ⟨hcs, hp⟩)
    · have hsu : s = up.length := Nat.le_antisymm h1 hp
      cases hne : n.ended with
      | true => exact .inr (.inr (.inr ⟨hsu, hcs, fun _ => rfl⟩))
      | false =>
        cases e with
        | true => exact .inr (.inr (.inl ⟨hsu, hcs.trans hsu, rfl, rfl⟩))
        | false => exact .inr (.inr (.inr ⟨hsu, hcs, fun h => nomatch h⟩))

/-- **no deadlock**: in every state satisfying the invariant, with one capacity ≥ 1 per channel, either a
    capacity-restricted action is enabled or the state is quiet -/
theorem progress (nodes : List (Node M)) : ∀ (caps : List Nat) (up : List M) (e : Bool) (s : Nat) (got : List M),
    caps.length = nodes.length + 1 → (∀ c ∈ caps, 1 ≤ c) → Good up e s nodes got →
    Quiet up.length e s nodes got ∨ ∃ s' nodes' got', StepC caps up e s nodes got s' nodes' got' := by
  induction nodes with
  | nil =>
    intro caps up e s got hl hc hg
    obtain ⟨h1, h2, _⟩ := hg
    cases caps with
    | nil => cases hl
    | cons c caps' =>
      rcases Nat.lt_or_ge got.length s with hr | hr
      · exact .inr ⟨_, _, _, .consRecv _ up e s got hr h1⟩
      · have hgs : got.length = s := Nat.le_antisymm h2 hr
        rcases Nat.lt_or_ge s up.length with hp | hp
        · exact .inr ⟨_, _, _, .push c caps' up e s [] got hp (room hgs (hc c List.mem_cons_self))⟩
        · exact .inl ⟨Nat.le_antisymm h1 hp, hgs⟩
  | cons n rest ih =>
    intro caps up e s got hl hc hg
    obtain ⟨h1, h2, _, _, h5⟩ := hg
    cases caps with
    | nil => cases hl
    | cons c caps' =>
      rcases ih caps' n.produced n.ended n.sent got (Nat.succ.inj hl) (fun x hx => hc x (List.mem_cons_of_mem _ hx)) h5
        with hq | ⟨s', rest', got', hstep⟩
      · -- downstream is quiet: the head node is idle
        have hidle : n.sent = n.produced.length := quiet_sent hq
        rcases idle_cases up e s n h1 h2 with hr | ⟨hcs, hp⟩ | ⟨hsu, hcu, rfl, hne⟩ | ⟨hsu, hcs, hen⟩
        · exact .inr ⟨_, _, _, .headRecv _ up e s n rest got hr h1 hidle⟩
        · exact .inr ⟨_, _, _, .push c caps' up e s (n :: rest) got hp (room hcs (hc c List.mem_cons_self))⟩
        · exact .inr ⟨_, _, _, .headEnd _ up s n rest got hsu hcu hne hidle⟩
        · exact .inl ⟨hsu, hcs, hen, hq⟩
      · exact .inr ⟨_, _, _, .deeper c caps' up e s n rest got s' rest' got' hstep⟩

inductive StepsC : List Nat → List M → Bool → Nat → List (Node M) → List M → Nat → List (Node M) → List M → Prop
  | refl (caps up e s nodes got) : StepsC caps up e s nodes got s nodes got
  | cons {caps up e s nodes got s1 nodes1 got1 s2 nodes2 got2}
      (h1 : StepC caps up e s nodes got s1 nodes1 got1) (h2 : StepsC caps up e s1 nodes1 got1 s2 nodes2 got2) :
      StepsC caps up e s nodes got s2 nodes2 got2

theorem StepsC.toSteps {caps : List Nat} {up : List M} {e : Bool} {s : Nat} {nodes : List (Node M)} {got : List M}
    {s' : Nat} {nodes' : List (Node M)} {got' : List M}
    (h : StepsC caps up e s nodes got s' nodes' got') : Steps up e s nodes got s' nodes' got' := by
  induction h with
  | refl => exact .refl _ _ _ _ _
  | cons h1 _ ih => exact .cons h1.toStep ih

/-- C13 no deadlock: under capacities ≥ 1 a reachable state has an enabled action or holds the sequential result -/
theorem C13_no_deadlock (input : List M) (stages : List (Stage M)) (caps : List Nat)
    (hl : caps.length = stages.length + 1) (hc : ∀ c ∈ caps, 1 ≤ c)
    (s' : Nat) (nodes' : List (Node M)) (got' : List M)
    (hs : StepsC caps input true 0 (initNodes stages) [] s' nodes' got') :
    (∃ s'' nodes'' got'', StepC caps input true s' nodes' got' s'' nodes'' got'') ∨ got' = pipe stages input := by
  obtain ⟨hg, hst⟩ := reach_init hs.toSteps
  rcases progress nodes' caps input true s' got' (by rw [hl, ← hst, List.length_map]) hc hg with hq | hstep
  · exact .inr (C13_complete input stages s' nodes' got' hs.toSteps (quiet_terminal nodes' _ _ _ hq))
  · exact .inl hstep

/-- remaining work, measured against the *final* output `UP` of the upstream neighbour: what the neighbour has produced
    so far (`up`) grows whenever the neighbour receives, so a measure against `up` would not fall -/
def work : List M → Nat → List (Node M) → List M → Nat
  | UP, s, [], got => (UP.length - s) + (UP.length - got.length)
  | UP, s, n :: rest, got =>
    (UP.length - s) + (UP.length - n.consumed.length) + (if n.ended then 0 else 1) + work (n.st.full UP) n.sent rest got

theorem pre_len {a b : List M} (h : Pre a b) : a.length ≤ b.length := by
  obtain ⟨t, rfl⟩ := h; simp

theorem work_sent (UP : List M) (s : Nat) (nodes : List (Node M)) (got : List M) :
    work UP s nodes got = (UP.length - s) + work UP UP.length nodes got := by
  cases nodes with
  | nil => simp only [work, Nat.sub_self, Nat.zero_add]
  | cons n rest => simp only [work, Nat.sub_self, Nat.zero_add, Nat.add_assoc]

theorem step_work {up : List M} {e : Bool} {s : Nat} {nodes : List (Node M)} {got : List M}
    {s' : Nat} {nodes' : List (Node M)} {got' : List M}
    (hs : Step up e s nodes got s' nodes' got') :
    ∀ (UP : List M), Upto UP up e → Good up e s nodes got → work UP s' nodes' got' < work UP s nodes got := by
  induction hs with
  | push up e s nodes got h =>
    intro UP hu _
    rw [work_sent UP (s + 1), work_sent UP s]
    exact Nat.add_lt_add_right (Nat.sub_succ_lt_self _ _ (Nat.lt_of_lt_of_le h (pre_len hu.1))) _
  | consRecv up e s got h hs =>
    intro UP hu _
    simp only [work, List.length_append, List.length_singleton]
    exact Nat.add_lt_add_left (Nat.sub_succ_lt_self _ _ (Nat.lt_of_lt_of_le h (Nat.le_trans hs (pre_len hu.1)))) _
  | headRecv up e s n rest got h hs hidle =>
    intro UP hu _
    simp only [work, List.length_append, List.length_singleton]
    exact Nat.add_lt_add_right (Nat.add_lt_add_right (Nat.add_lt_add_left
      (Nat.sub_succ_lt_self _ _ (Nat.lt_of_lt_of_le h (Nat.le_trans hs (pre_len hu.1)))) _) _) _
  | headEnd up s n rest got hs hc hne hidle =>
    intro UP _ _
    -- the node's own unit (`if ended then 0 else 1`) falls from 1 to 0, nothing else moves
    simp only [work, hne]; simp
  | deeper up e s n rest got s' rest' got' h ih =>
    intro UP hu hg
    obtain ⟨hp, h5⟩ := good_down hu hg
    exact Nat.add_lt_add_left (ih (n.st.full UP) hp h5) _

inductive StepsN : Nat → List M → Bool → Nat → List (Node M) → List M → Nat → List (Node M) → List M → Prop
  | refl (up e s nodes got) : StepsN 0 up e s nodes got s nodes got
  | cons {k up e s nodes got s1 nodes1 got1 s2 nodes2 got2}
      (h1 : Step up e s nodes got s1 nodes1 got1) (h2 : StepsN k up e s1 nodes1 got1 s2 nodes2 got2) :
      StepsN (k + 1) up e s nodes got s2 nodes2 got2

theorem StepsN.toSteps {k : Nat} {up : List M} {e : Bool} {s : Nat} {nodes : List (Node M)} {got : List M}
    {s' : Nat} {nodes' : List (Node M)} {got' : List M}
    (h : StepsN k up e s nodes got s' nodes' got') : Steps up e s nodes got s' nodes' got' := by
  induction h with
  | refl => exact .refl _ _ _ _ _
  | cons h1 _ ih => exact .cons h1 ih

theorem stepsN_bound {k : Nat} {up : List M} {e : Bool} {s : Nat} {nodes : List (Node M)} {got : List M}
    {s' : Nat} {nodes' : List (Node M)} {got' : List M}
    (hs : StepsN k up e s nodes got s' nodes' got') (UP : List M) (hu : Upto UP up e)
    (hg : Good up e s nodes got) : k + work UP s' nodes' got' ≤ work UP s nodes got := by
  induction hs with
  | refl => exact Nat.le_of_eq (Nat.zero_add _)
  | cons h1 _ ih =>
    rw [Nat.add_right_comm]
    exact Nat.lt_of_le_of_lt (ih hu (step_good h1 hg)) (step_work h1 UP hu hg)

/-- C13 termination: a schedule is no longer than the initial work, which depends on input and stage functions only -/
theorem C13_terminates (input : List M) (stages : List (Stage M)) (k : Nat) (s' : Nat) (nodes' : List (Node M)) (got' : List M)
    (hs : StepsN k input true 0 (initNodes stages) [] s' nodes' got') :
    k ≤ work input 0 (initNodes stages) [] :=
  Nat.le_trans (Nat.le_add_right _ _) (stepsN_bound hs input Upto.all (init_good input true stages))

end Net
